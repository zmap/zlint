/-
  ZlModel.Key — byte strings as natural numbers, so that kernel evaluation over
  generated tables is fast (GMP-backed `Nat` operations instead of `String`).
-/
namespace Zl

/-- injective key of a byte list: big-endian number of `1 :: bytes` -/
def keyOfBytes (bs : List Nat) : Nat := bs.foldl (fun acc b => acc * 256 + b) 1

/-- UTF-8 bytes of a code point (kernel-reducible: plain arithmetic, no ByteArray) -/
def utf8Bytes (c : Nat) : List Nat :=
  if c < 0x80 then [c]
  else if c < 0x800 then [0xC0 + c / 64, 0x80 + c % 64]
  else if c < 0x10000 then [0xE0 + c / 4096, 0x80 + (c / 64) % 64, 0x80 + c % 64]
  else [0xF0 + c / 262144, 0x80 + (c / 4096) % 64, 0x80 + (c / 64) % 64, 0x80 + c % 64]

def utf8OfString (s : String) : List Nat := s.toList.flatMap (fun ch => utf8Bytes ch.toNat)

def keyOf (s : String) : Nat := keyOfBytes (utf8OfString s)

/-- order-preserving key: bytes right-padded with NUL to `width`, big-endian -/
def padKeyOfBytes (width : Nat) (bs : List Nat) : Nat :=
  (bs ++ List.replicate (width - bs.length) 0).foldl (fun acc b => acc * 256 + b) 0

def padKeyOf (width : Nat) (s : String) : Nat := padKeyOfBytes width (utf8OfString s)

/-- the bytes of an injective key (inverse of `keyOfBytes`), most significant first -/
def bytesOfKey (k : Nat) : List Nat :=
  let rec go (fuel : Nat) (k : Nat) (acc : List Nat) : List Nat :=
    match fuel with
    | 0 => acc
    | fuel + 1 => if k ≤ 1 then acc else go fuel (k / 256) ((k % 256) :: acc)
  go k k []

/-- the non-NUL prefix bytes of a padded key of the given width -/
def bytesOfPadKey (width : Nat) (k : Nat) : List Nat :=
  ((List.range width).map (fun i => (k / 256 ^ (width - 1 - i)) % 256)).takeWhile (· != 0)

/-- strictly increasing list of numbers (⇒ no duplicates) -/
def strictSorted : List Nat → Bool
  | [] => true
  | [_] => true
  | a :: b :: rest => decide (a < b) && strictSorted (b :: rest)

theorem strictSorted_iff_pairwise : ∀ l : List Nat, strictSorted l = true ↔ l.Pairwise (· < ·)
  | [] => ⟨fun _ => .nil, fun _ => rfl⟩
  | [_] => ⟨fun _ => List.pairwise_singleton _ _, fun _ => rfl⟩
  | a :: b :: rest => by
    rw [strictSorted, Bool.and_eq_true, decide_eq_true_eq, strictSorted_iff_pairwise (b :: rest), List.pairwise_cons (a := a)]
    refine and_congr_left fun hp => ⟨fun hab x hx => ?_, fun h => h b List.mem_cons_self⟩
    rcases List.mem_cons.mp hx with rfl | hx
    · exact hab
    · exact Nat.lt_trans hab (List.rel_of_pairwise_cons hp hx)

theorem strictSorted_nodup (l : List Nat) (h : strictSorted l = true) : l.Nodup :=
  ((strictSorted_iff_pairwise l).mp h).imp Nat.ne_of_lt

/-- a concatenation is sorted when the second part is and the first part is up to and including the head of the second -/
theorem strictSorted_append (a b : List Nat) (hb : strictSorted b = true) (ha : strictSorted (a ++ b.take 1) = true) :
    strictSorted (a ++ b) = true := by
  rw [strictSorted_iff_pairwise] at hb ha ⊢
  rw [List.pairwise_append] at ha ⊢
  refine ⟨ha.1, hb, fun x hx y hy => ?_⟩
  cases b with
  | nil => cases hy
  | cons y0 b' =>
    have h0 := ha.2.2 x hx y0 (by simp)
    rcases List.mem_cons.mp hy with rfl | hy
    · exact h0
    · exact Nat.lt_trans h0 (List.rel_of_pairwise_cons hb hy)

end Zl
