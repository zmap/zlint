-- GENERATED by /verif/bin/emit_lean.py from /repo's current source. Do not edit.
namespace Zl.Generated
def tldWidth : Nat := 25
/-- one row of tldMap: padded key, padded GTLD field, delegation and removal dates as injective keys of their text -/
structure TldRow where
  key : Nat
  gtld : Nat
  deleg : Nat
  rem : Nat
  deriving Repr
def tldPart_0_0 : List (TldRow) := [
  ⟨611266592166148393051447526116133020964330449836568536416256, 611266592166148393051447526116133020964330449836568536416256, 1445933133263616242168376, 1⟩,
  ⟨611268262346835508610008002595900891809104784321783728701440, 611268262346835508610008002595900891809104784321783728701440, 1445933133263620419694643, 1⟩,
  ⟨611291154917393956108802442347053271461651815558082205843456, 611291154917393956108802442347053271461651815558082205843456, 1445933133545091218878516, 1445933204758260293120053⟩,
  ⟨611291207875773551391234907065256622805592325833718610526208, 611291207875773551391234907065256622805592325833718610526208, 1445933133263616175059509, 1⟩,
  ⟨611291249576000510645972534637603314556404008400067521150976, 611291249576000510645972534637603314556404008400067521150976, 1445933133263616158281783, 1⟩,
  ⟨611291252178849291870748274365502504465937096699100415393792, 611291252178849291870748274365502504465937096699100415393792, 1445933133545091151769654, 1⟩,
  ⟨611291303656744855509288554461945819699916302004913747001344, 611291303656744855509288554461945819699916302004913747001344, 1445933133545091202101816, 1⟩,
  ⟨611292203474072927399597234106623626461045843769461806465024, 611292203474072927399597234106623626461045843769461806465024, 1445933133545091185324593, 1⟩,
  ⟨611292491707614711348077474334327305120742193276190397038592, 611292491707614711348077474334327305120742193276190397038592, 1445933132982145426207029, 1⟩,
  ⟨611293065281222382312372208379610687289133181740789903917056, 611293065281222382312372208379610687289133181740789903917056, 1445933133545091151769654, 1⟩,
  ⟨611306341269239602043711195742149732108780560882550173597696, 611306341269239602043711195742149732108780560882550173597696, 1441377291880568130973745, 1⟩,
  ⟨611315669586134660920639714687447255003987107996805799870464, 611315669586134660920639714687447255003987107996805799870464, 1445933132700670483050807, 1⟩,
  ⟨611315861535415086747020370838662097851646934457722962182144, 611315861535415086747020370838662097851646934457722962182144, 1445933133263616191836217, 1⟩,
  ⟨611315865287055512052385891209627826455181306925690285719552, 611315865287055512052385891209627826455181306925690285719552, 1445933133263616158282293, 1⟩,
  ⟨611315865287055512052386488323766557960358587932768146030592, 611315865287055512052386488323766557960358587932768146030592, 1445933132982141215125559, 1⟩,
  ⟨611316972957054359147666056774650587378741915885210322337792, 611316972957054359147666056774650587378741915885210322337792, 1445933133263616242168375, 1⟩,
  ⟨611317491320108692465504487213127233056228357447151429615616, 611317491320108692465504487213127233056228357447151429615616, 1445933132982141231903286, 1445933134389516048347447⟩,
  ⟨611317493558552592788594550109224849245916347524941455818752, 611317493558552592788594550109224849245916347524941455818752, 1445933132982141164794422, 1⟩,
  ⟨611330861197893456265444929294584137055718460708505111232512, 611330861197893456265444929294584137055718460708505111232512, 1441377291880568130973745, 1⟩,
  ⟨611340188992407452231052285727624636166620999474387718504448, 611340188992407452231052285727624636166620999474387718504448, 1445933133545091101438518, 1445933204476789527491126⟩,
  ⟨611341876009593429841614379913841779902975720395945805873152, 611341876009593429841614379913841779902975720395945805873152, 1445933133263616158282292, 1⟩,
  ⟨611342108148667496932910295714325869226505430465647202009088, 611342108148667496932910295714325869226505430465647202009088, 1445933132982145459761206, 1⟩,
  ⟨611355381126547310487178662847018542002656360534460048867328, 611355381126547310487178662847018542002656360534460048867328, 1441377291880568130973745, 1⟩,
  ⟨611365246566591634646704344706005822118025906167559105806336, 611365246566591634646704344706005822118025906167559105806336, 1445933133263616208613936, 1⟩,
  ⟨611366341687306506340231789745495194421487930593684748238848, 611366341687306506340231789745495194421487930593684748238848, 1445933060361597190221874, 1⟩,
  ⟨611366533016870354240725520544487699808246882810781746855936, 611366533016870354240725520544487699808246882810781746855936, 1445933133545091168547376, 1⟩,
  ⟨611379901055201164708912396399452946949594260360414986502144, 611379901055201164708912396399452946949594260360414986502144, 1441377291880568130973745, 1⟩,
  ⟨611389232745236302216827146056754406918115252432325551587328, 611389232745236302216827146056754406918115252432325551587328, 1445933133545091202102065, 1445933204195314567557171⟩,
  ⟨611390245400102009458706315241886211536583686849489725816832, 611390245400102009458706315241886211536583686849489725816832, 1445933133263616158282296, 1⟩,
  ⟨611390859516336279822227942273085109711273535286981127307264, 611390859516336279822227942273085109711273535286981127307264, 1445933133826566094926133, 1⟩,
  ⟨611404420983855018930646129951887351896532160186369924136960, 611404420983855018930646129951887351896532160186369924136960, 1441377291880568130973745, 1⟩,
  ⟨611413751924076763619098317161653794898032152684501527429120, 611413751924076763619098317161653794898032152684501527429120, 1445933133545091151769910, 1⟩,
  ⟨611414136163222292071319767117858136361909161580085689450496, 611414136163222292071319767117858136361909161580085689450496, 1445933132982141148016948, 1⟩,
  ⟨611453460841162727374113597056756161790407959838279799406592, 611453460841162727374113597056756161790407959838279799406592, 1441377291880568130973745, 1⟩,
  ⟨611463326281207051533639278915743441905777505471378856345600, 611463326281207051533639278915743441905777505471378856345600, 1445933133263616191836210, 1⟩,
  ⟨611463367811237577928576602591651648371675792014357997551616, 611463367811237577928576602591651648371675792014357997551616, 1445933133545091218878774, 1445933203913835362988598⟩,
  ⟨611464416709696699696282195148487627903201521545041166729216, 611464416709696699696282195148487627903201521545041166729216, 1445933133545091185324336, 1⟩,
  ⟨611464418197501874080486075679790477809622679517822931959808, 611464418197501874080486075679790477809622679517822931959808, 1445933132982141198349104, 1⟩,
  ⟨611464423420872255384392628663138747729228561941264687169536, 611464423420872255384392628663138747729228561941264687169536, 1445933133263616225390648, 1⟩,
  ⟨611512119951486954861171980446309550407211210120763732393984, 611512119951486954861171980446309550407211210120763732393984, 1445933133545091151769910, 1⟩,
  ⟨611527020627124290039314797714059376631221659316144612311040, 611527020627124290039314797714059376631221659316144612311040, 1441377291880568130973745, 1⟩,
  ⟨611536826745453292530391337546600683909839162807624988098560, 611536826745453292530391337546600683909839162807624988098560, 1445933133545091218878514, 1445933204758260293120053⟩,
  ⟨611537114437591602881562763070047139559523656310823153827840, 611537114437591602881562763070047139559523656310823153827840, 1445933133545091101438262, 1⟩,
  ⟨611537119675742614690963512750666213359198905419166520442880, 611537119675742614690963512750666213359198905419166520442880, 1445933133545091101438262, 1⟩,
  ⟨611537403288843722474331304178589899003393884261145875841024, 611537403288843722474331304178589899003393884261145875841024, 1445933132982145426206769, 1⟩,
  ⟨611537408168723895530829188078521501389151895834611666649088, 611537408168723895530829188078521501389151895834611666649088, 1445933133545091202101556, 1⟩,
  ⟨611537410243499852751157510833834019437793902667385802850304, 611537410243499852751157510833834019437793902667385802850304, 1445933133545091134992948, 1⟩,
  ⟨611538071876098191980078109861331131459788478080738165522432, 611538071876098191980078109861331131459788478080738165522432, 1445933132982145426206772, 1⟩,
  ⟨611538079002425847531727329738692240935406865767429492965376, 611538079002425847531727329738692240935406865767429492965376, 1445933133545091185324336, 1⟩,
  ⟨611551540555778144261048531266493781578159559142099549945856, 611551540555778144261048531266493781578159559142099549945856, 1441377291880568130973745, 1⟩]
def tldPart_0_1 : List (TldRow) := [
  ⟨611560877118468451559533116351105237980601710683929891045376, 611560877118468451559533116351105237980601710683929891045376, 1445933203913835362988082, 1⟩,
  ⟨611561257240368678844758369952788274317371431784707197501440, 611561257240368678844758369952788274317371431784707197501440, 1445933133545091218878520, 1⟩,
  ⟨611561257240368678845068064316930212699599622173950333681664, 611561257240368678845068064316930212699599622173950333681664, 1445933133545091202101814, 1⟩,
  ⟨611561259331210158989804565549300728949095516263056054157312, 611561259331210158989804565549300728949095516263056054157312, 1445933133545091218878520, 1⟩,
  ⟨611561346666163500972570248646895277576019921842617024774144, 611561346666163500972570248646895277576019921842617024774144, 1445933133545091202101811, 1⟩,
  ⟨611561634739828231992182649938805284617133360184168705687552, 611561634739828231992182649938805284617133360184168705687552, 1445933133263616242168377, 1⟩,
  ⟨611562598916495468895508519744151334086424274091434320068608, 611562598916495468895508519744151334086424274091434320068608, 1445933132982145459761717, 1⟩,
  ⟨611585391823752058146739388436317652227283644826200129404928, 611585391823752058146739388436317652227283644826200129404928, 1445933133263620436472369, 1⟩,
  ⟨611585681396854550002404349477153684060002189701543333199872, 611585681396854550002404349477153684060002189701543333199872, 1445933132982145442984242, 1⟩,
  ⟨611586927651480052963936832094998619701853001814230301671424, 611586927651480052963936832094998619701853001814230301671424, 1445933133545091134993200, 1⟩,
  ⟨611587745762931100885327247215010207632622551853861137547264, 611587745762931100885327247215010207632622551853861137547264, 1445933133545091185324593, 1⟩,
  ⟨611600580413085852704515998371362591472035358794009425215488, 611600580413085852704515998371362591472035358794009425215488, 1441377291880568130973745, 1⟩,
  ⟨611610924757986697454309917213795856059024785283084164530176, 611610924757986697454309917213795856059024785283084164530176, 1445933133545095396405300, 1⟩,
  ⟨611634433918578722164170951147664659761481278061301278441472, 611634433918578722164170951147664659761481278061301278441472, 1445933133263616141504816, 1⟩,
  ⟨611635827810525768148258240352987048583258589793819648065536, 611635827810525768148258240352987048583258589793819648065536, 1445933133263616225390642, 1⟩,
  ⟨611635868365734702443483317587037471627396102226291783106560, 611635868365734702443483317587037471627396102226291783106560, 1445933133263620419694643, 1⟩,
  ⟨611649620270393561147983465476231401365911158445919300485120, 611649620270393561147983465476231401365911158445919300485120, 1441377291880568130973745, 1⟩,
  ⟨611660863103235013807794457186357530976625602494920860368896, 611660863103235013807794457186357530976625602494920860368896, 1445933132982145459761202, 1⟩,
  ⟨611674140199047415369717199028665806312849058271874238119936, 611674140199047415369717199028665806312849058271874238119936, 1441377291880568130973745, 1⟩,
  ⟨611683467619416992178613408401562988248383144005838114390016, 611683467619416992178613408401562988248383144005838114390016, 1445933133826566145258035, 1⟩,
  ⟨611683471880327962973756861152494154586783722143435416666112, 611683471880327962973756861152494154586783722143435416666112, 1445933133263620402917685, 1⟩,
  ⟨611683661579683787274732391967188192524451531603613690363904, 611683661579683787274732391967188192524451531603613690363904, 1445933132982141181571889, 1⟩,
  ⟨611684625596394282199613559545129646013745277794310565134336, 611684625596394282199613559545129646013745277794310565134336, 1445933132982141231902772, 1⟩,
  ⟨611684903959842134792706972291757624487874333541846430515200, 611684903959842134792706972291757624487874333541846430515200, 1441377291880568130973745, 1⟩,
  ⟨611685250791718693063940297044612646054430294130510069235712, 611685250791718693063940297044612646054430294130510069235712, 1445933133545091185324595, 1⟩,
  ⟨611685288580305027891766150119087680766644050354301900423168, 611685288580305027891766150119087680766644050354301900423168, 1445933133263620402917936, 1⟩,
  ⟨611698660127701269591450932581100211259786958097829175754752, 611698660127701269591450932581100211259786958097829175754752, 1441377291880568130973745, 1⟩,
  ⟨611708274516840339597796937083921666702924519313459730448384, 611708274516840339597796937083921666702924519313459730448384, 1445933133545091218878772, 1⟩,
  ⟨611708753421696860188065174067367651174544400169435412824064, 611708753421696860188065174067367651174544400169435412824064, 1445933061768972107329586, 1⟩,
  ⟨611709716614722049001084404761638729227252873578862803419136, 611709716614722049001084404761638729227252873578862803419136, 1445933132982141198348593, 1⟩,
  ⟨611723180056355123813184666133534616206724857923784113389568, 611723180056355123813184666133534616206724857923784113389568, 1441377291880568130973745, 1⟩,
  ⟨611733181833244092487688895478517289915052904794898116378624, 611733181833244092487688895478517289915052904794898116378624, 1445933133545091218878516, 1⟩,
  ⟨611734332346298366458710292184202518519455799717148026208256, 611734332346298366458710292184202518519455799717148026208256, 1445933132982141215126321, 1⟩,
  ⟨611747699985008978034918399685969021153662757749739051024384, 611747699985008978034918399685969021153662757749739051024384, 1441377291880568130973745, 1⟩,
  ⟨611757225856014530878000641901946661369132234624822872637440, 611757225856014530878000641901946661369132234624822872637440, 1445933132982141248680248, 1⟩,
  ⟨611757317367303401294953580669937013999747943220719453732864, 611757317367303401294953580669937013999747943220719453732864, 1445933133263620419695157, 1⟩,
  ⟨611757317511149385131896092915452602252291398530430293508096, 611757317511149385131896092915452602252291398530430293508096, 1445933133545091185324087, 1⟩,
  ⟨611757317529530083038683804590546030431255358402527966003200, 611757317529530083038683804590546030431255358402527966003200, 1445933132982141215125813, 1⟩,
  ⟨611758756863769699731554316059458433762960567166556887318528, 611758756863769699731554316059458433762960567166556887318528, 1445933133545091218878775, 1⟩,
  ⟨611758849651577354718704933583192441967139493891921951064064, 611758849651577354718704933583192441967139493891921951064064, 1445933133263620436471861, 1⟩,
  ⟨611758852107710782124078821377824067361142280151354023346176, 611758852107710782124078821377824067361142280151354023346176, 1445933133263616191836210, 1⟩,
  ⟨611758852275783470417132656971247823123514827411786265788416, 611758852275783470417132656971247823123514827411786265788416, 1445933132982141215126066, 1⟩,
  ⟨611782313368990956218261513310420007822723678774526453219328, 611782313368990956218261513310420007822723678774526453219328, 1445933133545091134992441, 1445933205039735219499575⟩,
  ⟨611796739842316686478385866790837831047538557401648926294016, 611796739842316686478385866790837831047538557401648926294016, 1441377291880568130973745, 1⟩,
  ⟨611807754654016660054555317410095473894795817089089620934656, 611807754654016660054555317410095473894795817089089620934656, 1445933133545091134992949, 1⟩,
  ⟨611821259770970540700119600343272235994476457227603863928832, 611821259770970540700119600343272235994476457227603863928832, 1441377291880568130973745, 1⟩,
  ⟨611830550525187040151323397822124334743902145833532102017024, 611830550525187040151323397822124334743902145833532102017024, 1445933132982141181571385, 1⟩,
  ⟨611870299628278249143587067448141045888352256879513739198464, 611870299628278249143587067448141045888352256879513739198464, 1441377291880568130973745, 1⟩,
  ⟨611881548801996280191355772455687408620605699533329227841536, 611881548801996280191355772455687408620605699533329227841536, 1445933133263616208613430, 1⟩,
  ⟨617534403147318574364079518060488588631007116675104332840960, 617534403147318574364079518060488588631007116675104332840960, 1441377291880568130973745, 1⟩]
def tldPart_0_2 : List (TldRow) := [
  ⟨617543834953981095895385757213371262494339598314394158628864, 617543834953981095895385757213371262494339598314394158628864, 1445933133545091151769656, 1⟩,
  ⟨617544497734743113998542842157017105499675031142210870444032, 617544497734743113998542842157017105499675031142210870444032, 1445933133545091101438005, 1⟩,
  ⟨617544975506053648177307446081128191601309602583662246756352, 617544975506053648177307446081128191601309602583662246756352, 1445933133545091202101816, 1⟩,
  ⟨617544975507492188883692397379874918705704679389246005444608, 617544975507492188883692397379874918705704679389246005444608, 1445933133545091218878516, 1445933205039735185945138⟩,
  ⟨617544976468603943021095437710631964543489798698442445291520, 617544976468603943021095437710631964543489798698442445291520, 1445933132982145426207029, 1⟩,
  ⟨617544979087614877118073467131635184771068969921873562304512, 617544979087614877118073467131635184771068969921873562304512, 1445933133263616124727353, 1⟩,
  ⟨617545322178047243822195321283057034583940400191349891006464, 617545322178047243822195321283057034583940400191349891006464, 1445933132982141164794423, 1⟩,
  ⟨617545359366575461708344928628561655137868563403072308510720, 617545359366575461708344928628561655137868563403072308510720, 1445933133263616225390648, 1⟩,
  ⟨617545359376743396320551078099294920520820485764923653095424, 617545359376743396320551078099294920520820485764923653095424, 1445933133263616124727860, 1⟩,
  ⟨617545359376743397681188212194922502018581653830059849416704, 617545359376743397681188212194922502018581653830059849416704, 1445933133263616124727860, 1⟩,
  ⟨617545360116342929121076923184855122676751206522516752302080, 617545360116342929121076923184855122676751206522516752302080, 1445933133545091134992948, 1⟩,
  ⟨617545360857289982915362275214594545818297737453907197558784, 617545360857289982915362275214594545818297737453907197558784, 1445933132982141148017203, 1⟩,
  ⟨617545455891388233219881542109438918445774864922104909791232, 617545455891388233219881542109438918445774864922104909791232, 1445933133545095379628848, 1⟩,
  ⟨617545458140747499967993707871282302228085041556617082961920, 617545458140747499967993707871282302228085041556617082961920, 1445933133545095379628345, 1⟩,
  ⟨617545648574416923801297361039783594720014615216509094461440, 617545648574416923801297361039783594720014615216509094461440, 1445933133263616175058997, 1⟩,
  ⟨617546030600671883116910261157242164312636031714292395933696, 617546030600671883116910261157242164312636031714292395933696, 1445933132982141215125555, 1⟩,
  ⟨617558923075972428585813251612922993577945016501059270475776, 617558923075972428585813251612922993577945016501059270475776, 1441377291880568130973745, 1⟩,
  ⟨617568405392131536273124343885153486116018657449377781514240, 617568405392131536273124343885153486116018657449377781514240, 1445933133263616158282289, 1⟩,
  ⟨617570033668643706280036349628869833319526252359695101591552, 617570033668643706280036349628869833319526252359695101591552, 1445933133545091202101557, 1⟩,
  ⟨617570261522594972717124909256149993118914148798202281721856, 617570261522594972717124909256149993118914148798202281721856, 1445933133263616191836727, 1⟩,
  ⟨617593308444670606967072667024344678640252461960113265049600, 617593308444670606967072667024344678640252461960113265049600, 1445933133545091134992441, 1⟩,
  ⟨617593978911469735793448198801169056900520295158479220375552, 617593978911469735793448198801169056900520295158479220375552, 1445933133263616225390648, 1⟩,
  ⟨617607962933280137029280718717791803471820816152969145745408, 617607962933280137029280718717791803471820816152969145745408, 1441377291880568130973745, 1⟩,
  ⟨617632482861933991251014452270226208418758715978924083380224, 617632482861933991251014452270226208418758715978924083380224, 1441377291880568130973745, 1⟩,
  ⟨617641817184975801173765144319126855273297503547857360125952, 617641817184975801173765144319126855273297503547857360125952, 1445933133263620419694643, 1⟩,
  ⟨617641817561272509851076878879906067690595795245441273036800, 617641817561272509851076878879906067690595795245441273036800, 1445933133545091202101557, 1⟩,
  ⟨617642199392499491039503604192173252737483954908368201580544, 617642199392499491039503604192173252737483954908368201580544, 1445933132982141215125813, 1⟩,
  ⟨617643062327951549705168470046008294424063799122643459768320, 617643062327951549705168470046008294424063799122643459768320, 1445933133263616225390649, 1⟩,
  ⟨617643442454345590538469566747325462573252421866273915273216, 617643442454345590538469566747325462573252421866273915273216, 1445933132982141148016696, 1⟩,
  ⟨617643541074386587005676961866108643608756527368937574236160, 617643541074386587005676961866108643608756527368937574236160, 1445933132982141164794423, 1⟩,
  ⟨617643541218284397774460859279805160870565617470788312498176, 617643541218284397774460859279805160870565617470788312498176, 1445933133545091202101561, 1⟩,
  ⟨617643593454605268945237550286173048160339951837559914496000, 617643593454605268945237550286173048160339951837559914496000, 1445933133263616225391156, 1⟩,
  ⟨617657002790587845472748185822660613365696615804879021015040, 617657002790587845472748185822660613365696615804879021015040, 1441377291880568130973745, 1⟩,
  ⟨617681522719241699694481919375095018312634515630833958649856, 617681522719241699694481919375095018312634515630833958649856, 1441377291880568130973745, 1⟩,
  ⟨617706042647895553916215652927529423259572415456788896284672, 617706042647895553916215652927529423259572415456788896284672, 1441377291880568130973745, 1⟩,
  ⟨617715376224709471193811456924391600703259367938821397151744, 617715376224709471193811456924391600703259367938821397151744, 1445933133263616208613684, 1⟩,
  ⟨617730562576549408137949386479963828206510315282743833919488, 617730562576549408137949386479963828206510315282743833919488, 1441377291880568130973745, 1⟩,
  ⟨617739989666946146002431908589555546894397492492339343523840, 617739989666946146002431908589555546894397492492339343523840, 1445933133263616208613426, 1⟩,
  ⟨617740140673679819943314126148883517638907932402257481433088, 617740140673679819943314126148883517638907932402257481433088, 1445933132982141181571122, 1⟩,
  ⟨617740848929065283597515511000182930611389521824415267946496, 617740848929065283597515511000182930611389521824415267946496, 1445933132700670466273588, 1⟩,
  ⟨617741137020268034265098747310537155645098356401838139375616, 617741137020268034265098747310537155645098356401838139375616, 1445933133263616208613680, 1⟩,
  ⟨617741137182494716008828971231146172076605771583646651645952, 617741137182494716008828971231146172076605771583646651645952, 1445933133263616141504564, 1⟩,
  ⟨617741194264364165241904247512464683476471670285403982659584, 617741194264364165241904247512464683476471670285403982659584, 1445933132982141231902770, 1⟩,
  ⟨617742247855048510540494368876045849314035408168550483886080, 617742247855048510540494368876045849314035408168550483886080, 1445933060080122314175029, 1⟩,
  ⟨617755082505203262359683120032398233153448215108698771554304, 617755082505203262359683120032398233153448215108698771554304, 1441377291880568130973745, 1⟩,
  ⟨617813450313405641963164555818101819258868836629676036194304, 617813450313405641963164555818101819258868836629676036194304, 1445933132982141181571639, 1⟩,
  ⟨617813450313990510487689042851042498801948942542541252722688, 617813450313990510487689042851042498801948942542541252722688, 1445933132982141198348850, 1⟩,
  ⟨617813454417935937563901396321238708496627131664088556371968, 617813454417935937563901396321238708496627131664088556371968, 1445933133545091185324593, 1445933134389516048347443⟩,
  ⟨617814791247565999956165064392706359155479439221177286918144, 617814791247565999956165064392706359155479439221177286918144, 1445933133545091218878516, 1⟩,
  ⟨617814792587200901048353595364529567380236032050898088755200, 617814792587200901048353595364529567380236032050898088755200, 1445933133545091168547128, 1⟩]
def tldPart_0_3 : List (TldRow) := [
  ⟨617814795740221676207766657809714674208680372880914333564928, 617814795740221676207766657809714674208680372880914333564928, 1445933132982145442983989, 1⟩,
  ⟨617815366524739887443253185624378114395442983014231445602304, 617815366524739887443253185624378114395442983014231445602304, 1445933132982141164793909, 1⟩,
  ⟨617828642291164825024884320689701447994261914586563584458752, 617828642291164825024884320689701447994261914586563584458752, 1441377291880568130973745, 1⟩,
  ⟨617839657102864798601053771308959090841519174274004279099392, 617839657102864798601053771308959090841519174274004279099392, 1445933133263616258945586, 1⟩,
  ⟨617840040226750015073268360895715878418815078958784824999936, 617840040226750015073268360895715878418815078958784824999936, 1445933132982141231903281, 1⟩,
  ⟨617853162219818679246618054242135852941199814412518522093568, 617853162219818679246618054242135852941199814412518522093568, 1441377291880568130973745, 1⟩,
  ⟨617863506564719523996411973084569117528189240901593261408256, 617863506564719523996411973084569117528189240901593261408256, 1445933133263616208613942, 1445933134389516132234032⟩,
  ⟨617863931735198519937656652017677764823192361909060441735168, 617863931735198519937656652017677764823192361909060441735168, 1445933132982141265457460, 1⟩,
  ⟨617877682148472533468351787794570257888137714238473459728384, 617877682148472533468351787794570257888137714238473459728384, 1441377291880568130973745, 1⟩,
  ⟨617887016471514343391102479843470904742676501807406736474112, 617887016471514343391102479843470904742676501807406736474112, 1445933133263616141505077, 1⟩,
  ⟨617887395104806934465446245330733920240586984482897737547776, 617887395104806934465446245330733920240586984482897737547776, 1445933133263620419695157, 1⟩,
  ⟨617887488099554211710805087090770107119923227796494287372288, 617887488099554211710805087090770107119923227796494287372288, 1445933133545091218878514, 1⟩,
  ⟨617888122274344682336199354033692719369451116898743335518208, 617888122274344682336199354033692719369451116898743335518208, 1445933133263616258945590, 1⟩,
  ⟨617888255469757902125367707444713633800620396261811572178944, 617888255469757902125367707444713633800620396261811572178944, 1445933133263616158282295, 1⟩,
  ⟨617888313836287290572306648827071113158099069241133608468480, 617888313836287290572306648827071113158099069241133608468480, 1445933132982141265457968, 1⟩,
  ⟨617888353869740140340399384262406050922523543656437825667072, 617888353869740140340399384262406050922523543656437825667072, 1445933133263620436471861, 1⟩,
  ⟨617888354023828098221690261675642182363273121361554267176960, 617888354023828098221690261675642182363273121361554267176960, 1445933133545091202101811, 1⟩,
  ⟨617888357405112601043853543397119661263212168204138647126016, 617888357405112601043853543397119661263212168204138647126016, 1445933133263616242167861, 1445933134108041105190966⟩,
  ⟨617888734152466173841338700861199523699365258130085508022272, 617888734152466173841338700861199523699365258130085508022272, 1445933133263620436472372, 1⟩,
  ⟨617888740514993663155237254630932546908269626610731683151872, 617888740514993663155237254630932546908269626610731683151872, 1445933133263620419695157, 1⟩,
  ⟨617888740523779799951535143658727355336200718670303871369216, 617888740523779799951535143658727355336200718670303871369216, 1445933133545095396405817, 1⟩,
  ⟨617888792741143811162574885810517097629718950097109290844160, 617888792741143811162574885810517097629718950097109290844160, 1445933133263620436471861, 1⟩,
  ⟨617888932076973143321498599652148810548236116450490217136128, 617888932076973143321498599652148810548236116450490217136128, 1445933132982141148017203, 1⟩,
  ⟨617889175865029027634789475397273885207014854781889836744704, 617889175865029027634789475397273885207014854781889836744704, 1445933133545095396405553, 1⟩,
  ⟨617951241934434096133552988451873472728951413716338272632832, 617951241934434096133552988451873472728951413716338272632832, 1441377291880568130973745, 1⟩,
  ⟨617960570251362928008175821185994658476875595231039449989120, 617960570251362928008175821185994658476875595231039449989120, 1445933133263616208613942, 1⟩,
  ⟨617961336501976795641877960821091059295267140580408740020224, 617961336501976795641877960821091059295267140580408740020224, 1445933133263616191836209, 1⟩,
  ⟨617961910061089218786178298255462894608903261163144968404992, 617961910061089218786178298255462894608903261163144968404992, 1445933133263620419694904, 1⟩,
  ⟨617961913803964193323895697364044012269750797901742357872640, 617961913803964193323895697364044012269750797901742357872640, 1445933133263616175059513, 1⟩,
  ⟨617961917175576796051220652237168025547687432414098513461248, 617961917175576796051220652237168025547687432414098513461248, 1445933133263616191836466, 1⟩,
  ⟨617962491503336595826913012626089938045580756526652968665088, 617962491503336595826913012626089938045580756526652968665088, 1445933132982141231903032, 1⟩,
  ⟨617975761863087950355286722004307877675889313542293210267648, 617975761863087950355286722004307877675889313542293210267648, 1441377291880568130973745, 1⟩,
  ⟨618000281791741804577020455556742282622827213368248147902464, 618000281791741804577020455556742282622827213368248147902464, 1441377291880568130973745, 1⟩,
  ⟨618034416273802094944737527348608279424757665501758709825536, 618034416273802094944737527348608279424757665501758709825536, 1445933132982141282234931, 1445933204476785249300791⟩,
  ⟨618034703622647415597307285413934080231206627024746947018752, 618034703622647415597307285413934080231206627024746947018752, 1445933133263620419695157, 1445933204476789510713399⟩,
  ⟨618034899276130023852281340077389099685203840582508617924608, 618034899276130023852281340077389099685203840582508617924608, 1445933132982141148016952, 1⟩,
  ⟨618034899276709184223000062512803146650492961322075074592768, 618034899276709184223000062512803146650492961322075074592768, 1445933132700670483051064, 1⟩,
  ⟨618035855978604006607457323011925153930508466783191077748736, 618035855978604006607457323011925153930508466783191077748736, 1445933132982141265457714, 1⟩,
  ⟨618036391217923457083245524108569511782966229908814599028736, 618036391217923457083245524108569511782966229908814599028736, 1445933133263620436471861, 1⟩,
  ⟨618036532644513898320059112842743404072241475974094917730304, 618036532644513898320059112842743404072241475974094917730304, 1445933132700670483050808, 1⟩,
  ⟨618049321649049513020487922661611092516703013020158023172096, 618049321649049513020487922661611092516703013020158023172096, 1441377291880568130973745, 1⟩,
  ⟨618073841577703367242221656214045497463640912846112960806912, 618073841577703367242221656214045497463640912846112960806912, 1441377291880568130973745, 1⟩,
  ⟨618122881435011075685689123318914307357516712498022836076544, 618122881435011075685689123318914307357516712498022836076544, 1441377291880568130973745, 1⟩,
  ⟨618147401363664929907422856871348712304454612323977773711360, 618147401363664929907422856871348712304454612323977773711360, 1441377291880568130973745, 1⟩,
  ⟨618157362584680558185002186127025189314148134128271967125504, 618157362584680558185002186127025189314148134128271967125504, 1445933132982141231903031, 1⟩,
  ⟨623811504882705255127915307483696255047109472119568367353856, 623811504882705255127915307483696255047109472119568367353856, 1441377291880568130973745, 1⟩,
  ⟨623820891417893058697172752359237550690859136896691741917184, 623820891417893058697172752359237550690859136896691741917184, 1445933132700670483050807, 1⟩]
def tldPart_0 : List (TldRow) := tldPart_0_0 ++ tldPart_0_1 ++ tldPart_0_2 ++ tldPart_0_3
def tldPart_1_0 : List (TldRow) := [
  ⟨623821312330364609997213195020469372980368797805264119005184, 623821312330364609997213195020469372980368797805264119005184, 1445933133263616175058997, 1⟩,
  ⟨623821849227606099877709226326129519634098898608643106668544, 623821849227606099877709226326129519634098898608643106668544, 1445933132982141282234677, 1⟩,
  ⟨623821889635203368802513108821607774573891826055866054868992, 623821889635203368802513108821607774573891826055866054868992, 1445933133263620436471861, 1⟩,
  ⟨623821893530735616896531790740102921554075044393677580402688, 623821893530735616896531790740102921554075044393677580402688, 1445933133545091218878516, 1⟩,
  ⟨623821945008577403995762873722818716528422874779838243143680, 623821945008577403995762873722818716528422874779838243143680, 1445933133545091185324342, 1⟩,
  ⟨623821982964328697584081571906364437126439299357322889920512, 623821982964328697584081571906364437126439299357322889920512, 1445933132700670466273334, 1⟩,
  ⟨623821986912752349547411344458870240169689614354736115351552, 623821986912752349547411344458870240169689614354736115351552, 1445933132700670483050807, 1⟩,
  ⟨623822077978111246069075934313202053697489537012218493665280, 623822077978111246069075934313202053697489537012218493665280, 1445933132982141248679987, 1445933204476789510713397⟩,
  ⟨623822082480344414615153165797821451487436269656165100552192, 623822082480344414615153165797821451487436269656165100552192, 1445933133263616141504564, 1⟩,
  ⟨623822270310248202454725931323959635368236356071469644513280, 623822270310248202454725931323959635368236356071469644513280, 1445933132982141231903033, 1⟩,
  ⟨623822271806745698320230349480711952033891052060937734324224, 623822271806745698320230349480711952033891052060937734324224, 1445933132982141198348593, 1⟩,
  ⟨623822271806745708027259400294976837293278388172646049120256, 623822271806745708027259400294976837293278388172646049120256, 1445933133545091218878768, 1⟩,
  ⟨623822423913433924586031110706264701000042755635813925519360, 623822423913433924586031110706264701000042755635813925519360, 1445933133263616258945081, 1⟩,
  ⟨623822460378456001178800670690597461156460491484013036306432, 623822460378456001178800670690597461156460491484013036306432, 1445933132982141265457461, 1⟩,
  ⟨623822461495948528550199652314020174299260606088119268147200, 623822461495948528550199652314020174299260606088119268147200, 1445933132982141164794161, 1⟩,
  ⟨623822461702020259413856963780739735712256511859605756706816, 623822461702020259413856963780739735712256511859605756706816, 1445933132982141198348851, 1⟩,
  ⟨623822461850282749732152076225074482218670066627045476007936, 623822461850282749732152076225074482218670066627045476007936, 1445933132982141198348593, 1⟩,
  ⟨623822461850285314317849907246735758826271421188618663755776, 623822461850285314317849907246735758826271421188618663755776, 1445933132700670483050807, 1⟩,
  ⟨623822466940042127607813022622746176167414854306467990732800, 623822466940042127607813022622746176167414854306467990732800, 1445933133263616191836210, 1⟩,
  ⟨623822467468223369037074816377262083381533702350569950150656, 623822467468223369037074816377262083381533702350569950150656, 1445933132982145459761457, 1445933134389520326537524⟩,
  ⟨623822555986413886905066022936855663905106675903125969174528, 623822555986413886905066022936855663905106675903125969174528, 1445933132982141282234931, 1⟩,
  ⟨623822557482991563531910611177428932606580488030800893181952, 623822557482991563531910611177428932606580488030800893181952, 1445933133545095379628848, 1⟩,
  ⟨623822557637042970491821096899336087005081195071409032790016, 623822557637042970491821096899336087005081195071409032790016, 1445933133545095379628848, 1445933204195310272590137⟩,
  ⟨623822558605424821002044052357858884132685847126557086187520, 623822558605424821002044052357858884132685847126557086187520, 1445933132982141198348851, 1⟩,
  ⟨623822559140968118240715966607597411877281008161182336417792, 623822559140968118240715966607597411877281008161182336417792, 1445933133263616141504825, 1⟩,
  ⟨623822615475376532822138405499643094788690707978204198469632, 623822615475376532822138405499643094788690707978204198469632, 1445933061206026398544432, 1⟩,
  ⟨623822653431175960391160983739233654069001156480682950656000, 623822653431175960391160983739233654069001156480682950656000, 1445933132982141164793908, 1⟩,
  ⟨623822654549241728069439051303468556263504099207169760559104, 623822654549241728069439051303468556263504099207169760559104, 1445933133545095413182513, 1⟩,
  ⟨623845315565575608800852838514982758743473060551451543076864, 623845315565575608800852838514982758743473060551451543076864, 1445933133263616208613938, 1⟩,
  ⟨623846560718202562335550254671942318369684750776988317253632, 623846560718202562335550254671942318369684750776988317253632, 1445933133263616141504819, 1⟩,
  ⟨623846981630674113635590697333174140659194411685560694341632, 623846981630674113635590697333174140659194411685560694341632, 1445933133545091202101298, 1⟩,
  ⟨623847039623059082925818491655388302841304631632963999629312, 623847039623059082925818491655388302841304631632963999629312, 1445933133545091218878516, 1445933204758264487424565⟩,
  ⟨623860544740012963571382774588565064940985271771478242623488, 623860544740012963571382774588565064940985271771478242623488, 1441377291880568130973745, 1⟩,
  ⟨623885064668666817793116508140999469887923171597433180258304, 623885064668666817793116508140999469887923171597433180258304, 1441377291880568130973745, 1⟩,
  ⟨623918971132508475584107686568975170478610736200511492456448, 623918971132508475584107686568975170478610736200511492456448, 1445933133263616242167864, 1445933203913839590846520⟩,
  ⟨623920164053179237497539626750205072059652556724865645674496, 623920164053179237497539626750205072059652556724865645674496, 1445933132700670483050807, 1⟩,
  ⟨623920216285135429118805102725934730104822426426048266633216, 623920216285135429118805102725934730104822426426048266633216, 1445933132700670483051064, 1⟩,
  ⟨623920544783935448711192221531767210078324188450694086262784, 623920544783935448711192221531767210078324188450694086262784, 1445933132982141265457462, 1⟩,
  ⟨623934104525974526236583975245868279781798971249343055527936, 623934104525974526236583975245868279781798971249343055527936, 1441377291880568130973745, 1⟩,
  ⟨623943395280191025687787772724720378531224659855271293616128, 623943395280191025687787772724720378531224659855271293616128, 1445933133263616191836210, 1⟩,
  ⟨623943682623104938041948714914787969214196588368856703041536, 623943682623104938041948714914787969214196588368856703041536, 1445933133263616158282035, 1⟩,
  ⟨623958624454628380458317708798302684728736871075297993162752, 623958624454628380458317708798302684728736871075297993162752, 1441377291880568130973745, 1⟩,
  ⟨623983144383282234680051442350737089675674770901252930797568, 623983144383282234680051442350737089675674770901252930797568, 1441377291880568130973745, 1⟩,
  ⟨623992476441613077743151585852543425358777059902408112472064, 623992476441613077743151585852543425358777059902408112472064, 1445933133263616242167861, 1⟩,
  ⟨623992476454729038024215386547006242703652467238535434338304, 623992476454729038024215386547006242703652467238535434338304, 1445933132982141282234677, 1⟩,
  ⟨623992477944085131235655398687525424364049378404813238173696, 623992477944085131235655398687525424364049378404813238173696, 1445933134108041138745399, 1⟩,
  ⟨623992478311718602523458346484642831696817143163084420939776, 623992478311718602523458346484642831696817143163084420939776, 1445933133545091118215735, 1⟩,
  ⟨623992478538251356309748298806213980767841011209753965101056, 623992478538251356309748298806213980767841011209753965101056, 1445933133263616141504564, 1⟩,
  ⟨623992854717080792185512221089060443277360006489543066779648, 623992854717080792185512221089060443277360006489543066779648, 1445933132982141148016948, 1⟩,
  ⟨623993242711245577927311092279775569671875964858765479510016, 623993242711245577927311092279775569671875964858765479510016, 1445933133545091185324087, 1⟩]
def tldPart_1_1 : List (TldRow) := [
  ⟨623993530405825271195203879607650728832907068918555998158848, 623993530405825271195203879607650728832907068918555998158848, 1445933133263616158281785, 1445933133826570356338742⟩,
  ⟨623994102867912286085557935281162914908590786044404804091904, 623994102867912286085557935281162914908590786044404804091904, 1445933132982141164794422, 1⟩,
  ⟨623994105103921717070026195125362936392238786138072906989568, 623994105103921717070026195125362936392238786138072906989568, 1445933132982141282234677, 1⟩,
  ⟨623994108854177143702584497926293261972035681212250116325376, 623994108854177143702584497926293261972035681212250116325376, 1445933133545091202101816, 1445933134389520326537529⟩,
  ⟨623994393554670997493324020832396329705786637492491776950272, 623994393554670997493324020832396329705786637492491776950272, 1445933132982141215125813, 1⟩,
  ⟨624007664311936088901785175903171494622612670727207868432384, 624007664311936088901785175903171494622612670727207868432384, 1441377291880568130973745, 1⟩,
  ⟨624018434587199840242141029237308693994777207802283092344832, 624018434587199840242141029237308693994777207802283092344832, 1445933133263620402917433, 1⟩,
  ⟨624018620541381039773895261037873850402038966561347140059136, 624018620541381039773895261037873850402038966561347140059136, 1445933133263620436471861, 1⟩,
  ⟨624018716326160240736088409397226554262854195756411444527104, 624018716326160240736088409397226554262854195756411444527104, 1445933133263616191836469, 1⟩,
  ⟨624018811343345205078414479672635417035793194705695136546816, 624018811343345205078414479672635417035793194705695136546816, 1445933133545091202101811, 1⟩,
  ⟨624018814189771378050678715234166637777881474937310454743040, 624018814189771378050678715234166637777881474937310454743040, 1445933133545091202101816, 1⟩,
  ⟨624018814334460040146438104136331436216793493883247776497664, 624018814334460040146438104136331436216793493883247776497664, 1445933132982141198348857, 1⟩,
  ⟨624018820176082084558057068196459712583776723448010150772736, 624018820176082084558057068196459712583776723448010150772736, 1445933132982141248680240, 1⟩,
  ⟨624018820324250118937604087073595278149335782547366682296320, 624018820324250118937604087073595278149335782547366682296320, 1445933133263620419694896, 1445933204758264487424312⟩,
  ⟨624056704169243797345252643008040304516488470379117743702016, 624056704169243797345252643008040304516488470379117743702016, 1441377291880568130973745, 1⟩,
  ⟨624081224097897651566986376560474709463426370205072681336832, 624081224097897651566986376560474709463426370205072681336832, 1441377291880568130973745, 1⟩,
  ⟨624090554297238374880573774983863569938561244067700385251328, 624090554297238374880573774983863569938561244067700385251328, 1445933132982141215125559, 1⟩,
  ⟨624090934429375111883259141952286147038119467791961563332608, 624090934429375111883259141952286147038119467791961563332608, 1445933132982141164793908, 1⟩,
  ⟨624091318296562755671429524414823060829563001443701162508288, 624091318296562755671429524414823060829563001443701162508288, 1445933132982141265457462, 1⟩,
  ⟨624091322409793553206901896352891261337085418829502906105856, 624091322409793553206901896352891261337085418829502906105856, 1445933132982141198348850, 1⟩,
  ⟨624091322409876097063222537296922996339426340171235415031808, 624091322409876097063222537296922996339426340171235415031808, 1445933133263620436472376, 1⟩,
  ⟨624091899339063107217321992552679033317062138992433221861376, 624091899339063107217321992552679033317062138992433221861376, 1445933132700670466273334, 1⟩,
  ⟨624091899706759613739235735450112157523125031907817611591680, 624091899706759613739235735450112157523125031907817611591680, 1445933133263616208613942, 1⟩,
  ⟨624092467137693310736955533867155829285439979362939287109632, 624092467137693310736955533867155829285439979362939287109632, 1445933132982141148016952, 1⟩,
  ⟨624092467297575827348397012805619177154999689376685161971712, 624092467297575827348397012805619177154999689376685161971712, 1445933133263620402917426, 1⟩,
  ⟨624105744026551505788720110112909114410364270031027618971648, 624105744026551505788720110112909114410364270031027618971648, 1441377291880568130973745, 1⟩,
  ⟨624130263955205360010453843665343519357302169856982556606464, 624130263955205360010453843665343519357302169856982556606464, 1441377291880568130973745, 1⟩,
  ⟨624154783883859214232187577217777924304240069682937494241280, 624154783883859214232187577217777924304240069682937494241280, 1441377291880568130973745, 1⟩,
  ⟨624164111830369380480208837144001646017636042493037085982720, 624164111830369380480208837144001646017636042493037085982720, 1445933132982145442984502, 1⟩,
  ⟨624164399937648649158432005554596404211223990286675215384576, 624164399937648649158432005554596404211223990286675215384576, 1445933132700670483051064, 1⟩,
  ⟨624164591853851261696471014345214075048870029420899793371136, 624164591853851261696471014345214075048870029420899793371136, 1445933132700670483051064, 1⟩,
  ⟨624165168784559271701866480358194920862325738085186164228096, 624165168784559271701866480358194920862325738085186164228096, 1445933132982141198348592, 1⟩,
  ⟨624165169909955495382057494251701874061008249084072939225088, 624165169909955495382057494251701874061008249084072939225088, 1445933132982141181571385, 1⟩,
  ⟨624165224009731363100035143456900385785553472343207370031104, 624165224009731363100035143456900385785553472343207370031104, 1441377291880568130973745, 1⟩,
  ⟨624165261192453639260624056574417444609776170382457953058816, 624165261192453639260624056574417444609776170382457953058816, 1445933133545091202101303, 1445933205039735202721846⟩,
  ⟨624165264935256446147735004497225646580824230952307450183680, 624165264935256446147735004497225646580824230952307450183680, 1445933133263616208613938, 1⟩,
  ⟨624165264963099083458501616987070755492937041853092454203392, 624165264963099083458501616987070755492937041853092454203392, 1445933132982141148017205, 1⟩,
  ⟨624165266056302654847740841811775109848768433136481331052544, 624165266056302654847740841811775109848768433136481331052544, 1445933132700670483050807, 1⟩,
  ⟨624165266056325044795920166557409211709914172091433335390208, 624165266056325044795920166557409211709914172091433335390208, 1445933133545091101438261, 1⟩,
  ⟨624165266085566505454880468821199492367119971734366531354624, 624165266085566505454880468821199492367119971734366531354624, 1445933132700670483050807, 1⟩,
  ⟨624165267184516421578549810224853110301172156073118189748224, 624165267184516421578549810224853110301172156073118189748224, 1445933133263620419694902, 1⟩,
  ⟨624165357368027798571578462333817128194176934650820182409216, 624165357368027798571578462333817128194176934650820182409216, 1445933132982141164794161, 1⟩,
  ⟨624165362987498502969046796393035686235168165579069763616768, 624165362987498502969046796393035686235168165579069763616768, 1445933132700670466273588, 1⟩,
  ⟨624165362988925728881636342100498756168566216304285622206464, 624165362988925728881636342100498756168566216304285622206464, 1445933132982141198348337, 1⟩,
  ⟨624165363333788725190434022561155303183319080407543020781568, 624165363333788725190434022561155303183319080407543020781568, 1445933133263620436472370, 1⟩,
  ⟨624165363358622466073797989389047065312024899489122108833792, 624165363358622466073797989389047065312024899489122108833792, 1445933132700670466273588, 1⟩,
  ⟨624165455759214778985526051098849848779375476806018301689856, 624165455759214778985526051098849848779375476806018301689856, 1445933132982141181571889, 1⟩,
  ⟨624165455759214787645161233010237967862728444367667011256320, 624165455759214787645161233010237967862728444367667011256320, 1445933133545091185324595, 1445933204758260293120308⟩,
  ⟨624165455979271240260946320745757034513994352132820591181824, 624165455979271240260946320745757034513994352132820591181824, 1445933132982141148017203, 1⟩,
  ⟨624165457475848916887790908986330303215468164260495515189248, 624165457475848916887790908986330303215468164260495515189248, 1445933060080126491701808, 1⟩]
def tldPart_1_2 : List (TldRow) := [
  ⟨624165746095221111890425916351558563068329615898783682396160, 624165746095221111890425916351558563068329615898783682396160, 1445933133263616191836470, 1⟩,
  ⟨624166031583575616551118177668968995049743905737849803112448, 624166031583575616551118177668968995049743905737849803112448, 1445933132982141181571889, 1⟩,
  ⟨624166032324531412324633639634740146839477214329483254824960, 624166032324531412324633639634740146839477214329483254824960, 1445933133545091118215481, 1⟩,
  ⟨624166032324533976910331470656401423447078568891056442572800, 624166032324533976910331470656401423447078568891056442572800, 1445933133263616191836467, 1⟩,
  ⟨624166033078617440856139961893784698833780425208607855869952, 624166033078617440856139961893784698833780425208607855869952, 1445933133263616141505077, 1⟩,
  ⟨624188594566729567905125108249064428000603658114820669964288, 624188594566729567905125108249064428000603658114820669964288, 1445933134389516165788208, 1⟩,
  ⟨624228343669820776897388777875081139145053769160802307145728, 624228343669820776897388777875081139145053769160802307145728, 1441377291880568130973745, 1⟩,
  ⟨624238055116484323341082242751219695133654948450538702766080, 624238055116484323341082242751219695133654948450538702766080, 1445933132982141215125559, 1⟩,
  ⟨624238055116486539603673745292220108314397278337245632266240, 624238055116486539603673745292220108314397278337245632266240, 1445933132982141198348857, 1⟩,
  ⟨624238055116486942146499687314639489097907588306050731737088, 624238055116486942146499687314639489097907588306050731737088, 1445933133263620419694896, 1⟩,
  ⟨624238437869065075956128163073661456186167623644464111681536, 624238437869065075956128163073661456186167623644464111681536, 1445933132982145442984247, 1⟩,
  ⟨624239020041586593756369460067042069882652167123944024834048, 624239020041586593756369460067042069882652167123944024834048, 1445933133263616208613689, 1⟩,
  ⟨624239358481520750473558228494338781992311028848243001786368, 624239358481520750473558228494338781992311028848243001786368, 1445933132982145426207029, 1⟩,
  ⟨624239589497276666525243007988136782488676692837630902009856, 624239589497276666525243007988136782488676692837630902009856, 1445933133545095396405554, 1⟩,
  ⟨624239589497279231110940839009798059096278047399204089757696, 624239589497279231110940839009798059096278047399204089757696, 1445933132982141164793908, 1⟩,
  ⟨624262345914633738806433603699746036630065309935075755819008, 624262345914633738806433603699746036630065309935075755819008, 1445933133263616258945073, 1445933204476785249300529⟩,
  ⟨624301903455782339562589978532384353985867468638667120050176, 624301903455782339562589978532384353985867468638667120050176, 1441377291880568130973745, 1⟩,
  ⟨624312003638465397704811658826380480155667370854209615298560, 624312003638465397704811658826380480155667370854209615298560, 1445933132982141248679987, 1⟩,
  ⟨624326423384436193784323712084818758932805368464622057684992, 624326423384436193784323712084818758932805368464622057684992, 1441377291880568130973745, 1⟩,
  ⟨624350943313090048006057445637253163879743268290576995319808, 624350943313090048006057445637253163879743268290576995319808, 1441377291880568130973745, 1⟩,
  ⟨624375463241743902227791179189687568826681168116531932954624, 624375463241743902227791179189687568826681168116531932954624, 1441377291880568130973745, 1⟩,
  ⟨624399983170397756449524912742121973773619067942486870589440, 624399983170397756449524912742121973773619067942486870589440, 1441377291880568130973745, 1⟩,
  ⟨624410466119729380750158885267413718674741229541236188119040, 624410466119729380750158885267413718674741229541236188119040, 1445933132982141265457208, 1⟩,
  ⟨624410658633109554888683979811390938561689427679638546546688, 624410658633109554888683979811390938561689427679638546546688, 1445933133263616175058995, 1⟩,
  ⟨624424503099051610671258646294556378720556967768441808224256, 624424503099051610671258646294556378720556967768441808224256, 1441377291880568130973745, 1⟩,
  ⟨630098037094787967451935680494433397554726761316423613546496, 630098037094787967451935680494433397554726761316423613546496, 1445933133263616124727860, 1445933205039735320162869⟩,
  ⟨630098184715222347697115836575823610895609444683546049380352, 630098184715222347697115836575823610895609444683546049380352, 1445933132982141265457968, 1⟩,
  ⟨630099179712844550762477064235476148304670641540700970156032, 630099179712844550762477064235476148304670641540700970156032, 1445933132982141148016948, 1⟩,
  ⟨630099753502771871786955459756752527215533007518785140162560, 630099753502771871786955459756752527215533007518785140162560, 1445933133545095413183024, 1⟩,
  ⟨630099754999349548413800047997325795917006819646460064169984, 630099754999349548413800047997325795917006819646460064169984, 1445933133263616158282293, 1⟩,
  ⟨630099756657280431196438812711300410036684955932477259513856, 630099756657280431196438812711300410036684955932477259513856, 1445933132982141148017205, 1⟩,
  ⟨630099760408995097160262370616829007626528053253074814238720, 630099760408995097160262370616829007626528053253074814238720, 1445933133263616158281780, 1⟩,
  ⟨630100196115619734176242431906296745676412944278643915358208, 630100196115619734176242431906296745676412944278643915358208, 1445933132982141265457968, 1⟩,
  ⟨630148030853753338853105218289540933708501528120321233649664, 630148030853753338853105218289540933708501528120321233649664, 1445933133263616124727860, 1⟩,
  ⟨630173181215753472133121748183464779151282786729337909411840, 630173181215753472133121748183464779151282786729337909411840, 1445933133545091168547121, 1⟩,
  ⟨630186686332707352778686031116641541250963426867852152406016, 630186686332707352778686031116641541250963426867852152406016, 1441377291880568130973745, 1⟩,
  ⟨630196017494521121154693711090971894940182042921003338694656, 630196017494521121154693711090971894940182042921003338694656, 1445933133545091185324087, 1⟩,
  ⟨630196017642783611472988823535306641446595597688443057995776, 630196017642783611472988823535306641446595597688443057995776, 1445933133263620436472372, 1⟩,
  ⟨630196017662593809447747546684395650702554590181435581136896, 630196017662593809447747546684395650702554590181435581136896, 1445933132982141248680240, 1⟩,
  ⟨630196594573403734241556880362486694994338799160034360033280, 630196594573403734241556880362486694994338799160034360033280, 1445933132982141215126320, 1⟩,
  ⟨630197070135808563081589373648133446357194335782556116451328, 630197070135808563081589373648133446357194335782556116451328, 1445933132982145442983985, 1⟩,
  ⟨630197071085205466453283832454553060777745780804149839921152, 630197071085205466453283832454553060777745780804149839921152, 1445933133263620402917684, 1⟩,
  ⟨630197072361761234457361554091250293881218899672794113507328, 630197072361761234457361554091250293881218899672794113507328, 1445933133545091101438521, 1⟩,
  ⟨630197074220126478528070592001457026954172857966125144604672, 630197074220126478528070592001457026954172857966125144604672, 1445933133263616225390897, 1⟩,
  ⟨630197168133951688362413653194232926012200893984083911114752, 630197168133951688362413653194232926012200893984083911114752, 1445933132982141148016948, 1⟩,
  ⟨630197265782685657767426861463452600281622992207432764096512, 630197265782685657767426861463452600281622992207432764096512, 1445933132982141198348851, 1⟩,
  ⟨630197265794420220687912881238036129093817469438433635074048, 630197265794420220687912881238036129093817469438433635074048, 1445933132982141215126321, 1⟩,
  ⟨630197740429571337809525923050947487511908254906759602241536, 630197740429571337809525923050947487511908254906759602241536, 1445933132982141198348592, 1⟩,
  ⟨630197740580733995439399545973592671108243183791329062682624, 630197740580733995439399545973592671108243183791329062682624, 1445933133263616124727860, 1⟩,
  ⟨630197988487321238709016423925966774781192615068878256472064, 630197988487321238709016423925966774781192615068878256472064, 1445933132982145459761464, 1⟩]
def tldPart_1_3 : List (TldRow) := [
  ⟨630270590463569760193681150616378020678766552834791704625152, 630270590463569760193681150616378020678766552834791704625152, 1445933133545091185324082, 1⟩,
  ⟨630294097746137868019293373843870012094942995925965484326912, 630294097746137868019293373843870012094942995925965484326912, 1445933132700670466273593, 1⟩,
  ⟨630294483326177107767532411368612839708177171164953483149312, 630294483326177107767532411368612839708177171164953483149312, 1445933132982141265457462, 1⟩,
  ⟨630294670942621475795453180753192085976580820572285041639424, 630294670942621475795453180753192085976580820572285041639424, 1445933132982141215125559, 1⟩,
  ⟨630295723011988678976737575910398484832598650600928208486400, 630295723011988678976737575910398484832598650600928208486400, 1445933132982141248679986, 1⟩,
  ⟨630295723011991164331429375427668867091519785357022809030656, 630295723011991164331429375427668867091519785357022809030656, 1445933132700670466273593, 1⟩,
  ⟨630295818062217336607107594497503678450041248538257069703168, 630295818062217336607107594497503678450041248538257069703168, 1445933132982141198348851, 1⟩,
  ⟨630295818062222844716947059697899144479206793678483722600448, 630295818062222844716947059697899144479206793678483722600448, 1445933133545091202101816, 1⟩,
  ⟨630295819770042335539749710200541790124291401178660621778944, 630295819770042335539749710200541790124291401178660621778944, 1445933133545091218878768, 1⟩,
  ⟨630296355544850567950112300325771985251916142886283416436736, 630296355544850567950112300325771985251916142886283416436736, 1445933133545091218879029, 1⟩,
  ⟨630309285975976623887354698878813565985652925997626840580096, 630309285975976623887354698878813565985652925997626840580096, 1441377291880568130973745, 1⟩,
  ⟨630333805904630478109088432431247970932590825823581778214912, 630333805904630478109088432431247970932590825823581778214912, 1441377291880568130973745, 1⟩,
  ⟨630382845761938186552555899536116780826466625475491653484544, 630382845761938186552555899536116780826466625475491653484544, 1441377291880568130973745, 1⟩,
  ⟨630418093159378101996298141517741237937689856475301876334592, 630418093159378101996298141517741237937689856475301876334592, 1445933132982141181571377, 1⟩,
  ⟨630431885619245894996023366640985590720342425127401528754176, 630431885619245894996023366640985590720342425127401528754176, 1441377291880568130973745, 1⟩,
  ⟨630441410962013205705116370829697558425788164746374105006080, 630441410962013205705116370829697558425788164746374105006080, 1445933132982145459761464, 1⟩,
  ⟨630441411499035131553431659516212470434733002742291880738816, 630441411499035131553431659516212470434733002742291880738816, 1445933133545091202101809, 1⟩,
  ⟨630441502400863145313057448243239117320035289519793656299520, 630441502400863145313057448243239117320035289519793656299520, 1445933133545091218878516, 1445933134389520326537529⟩,
  ⟨630441751059290219155549048499972870835711970760500585693184, 630441751059290219155549048499972870835711970760500585693184, 1445933133263616175059513, 1⟩,
  ⟨630441883132270181474583960730563833740775891027812629348352, 630441883132270181474583960730563833740775891027812629348352, 1445933133263616158282293, 1445933134389516081901625⟩,
  ⟨630442362191214927555085457494723648081764621369242824998912, 630442362191214927555085457494723648081764621369242824998912, 1445933132700670483050807, 1⟩,
  ⟨630442560476062502927648345003390995757713109567349607890944, 630442560476062502927648345003390995757713109567349607890944, 1445933132982145459761459, 1445933133545091118215732⟩,
  ⟨630442996211917172690246464656932430461923660986037359869952, 630442996211917172690246464656932430461923660986037359869952, 1445933133545091168547128, 1⟩,
  ⟨630443324869195238973445395462422144966281962118410127015936, 630443324869195238973445395462422144966281962118410127015936, 1445933133263616158282293, 1⟩,
  ⟨630515546703847515919194091786138074262995665332415116607488, 630515546703847515919194091786138074262995665332415116607488, 1445933133263616208613936, 1⟩,
  ⟨630565787417129052035022427212482848985261112458202320994304, 630565787417129052035022427212482848985261112458202320994304, 1445933133545091168547383, 1⟩,
  ⟨630588428171823154016409284076421989491669150020244353318912, 630588428171823154016409284076421989491669150020244353318912, 1445933133545091101438007, 1⟩,
  ⟨630588527540780977781829595663157450704467939446753882800128, 630588527540780977781829595663157450704467939446753882800128, 1445933133545091202101809, 1445933204195314567557171⟩,
  ⟨630589581668475830947193358034205062263220919364727097786368, 630589581668475830947193358034205062263220919364727097786368, 1445933133545091185324336, 1⟩,
  ⟨630589584124620676334108893507885153944979301585250232041472, 630589584124620676334108893507885153944979301585250232041472, 1445933133545091202101811, 1445933134389516149011248⟩,
  ⟨630589774351413030979186486447906655320769139705399755145216, 630589774351413030979186486447906655320769139705399755145216, 1445933133545091185324336, 1⟩,
  ⟨630589961030444414948122188485628624141048735494046216093696, 630589961030444414948122188485628624141048735494046216093696, 1445933132982141231903033, 1⟩,
  ⟨630612854410914547140611446181640193161284074802643623477248, 630612854410914547140611446181640193161284074802643623477248, 1445933132982141282234935, 1⟩,
  ⟨630614444150551544006275304730594871301841007425331650363392, 630614444150551544006275304730594871301841007425331650363392, 1445933133545091235656496, 1⟩,
  ⟨630701604834438291435094435717764045136659323212905842737152, 630701604834438291435094435717764045136659323212905842737152, 1441377291880568130973745, 1⟩,
  ⟨636376670936956078574609652022488048777481452271531775229952, 636376670936956078574609652022488048777481452271531775229952, 1445933133263616191836468, 1⟩,
  ⟨636376818946149894349809984346058427620895418867132267495424, 636376818946149894349809984346058427620895418867132267495424, 1445933132982141265457968, 1⟩,
  ⟨636414748210786325099054353434980397773189982660406311649280, 636414748210786325099054353434980397773189982660406311649280, 1441377291880568130973745, 1⟩,
  ⟨636425379898601082203009214467481253043151337663066460389376, 636425379898601082203009214467481253043151337663066460389376, 1445933133545091218879032, 1⟩,
  ⟨636448982192760403833396792554116055584753403098999707140096, 636448982192760403833396792554116055584753403098999707140096, 1445933133545091101438513, 1⟩,
  ⟨636450474513082761133064832400050839356033094516192216875008, 636450474513082761133064832400050839356033094516192216875008, 1441377291880568130973745, 1⟩,
  ⟨636450511695810510683122184306928183187456643002631765098496, 636450511695810510683122184306928183187456643002631765098496, 1445933132700670483051064, 1⟩,
  ⟨636463788068094033542521820539849207667065782312316186918912, 636463788068094033542521820539849207667065782312316186918912, 1441377291880568130973745, 1⟩,
  ⟨636512827925401741985989287644718017560941581964226062188544, 636512827925401741985989287644718017560941581964226062188544, 1441377291880568130973745, 1⟩,
  ⟨636669277694547555054003442919222811339040804000191395921920, 636669277694547555054003442919222811339040804000191395921920, 1445933132982141148016690, 1⟩,
  ⟨636669664173189891213118380612529236395130622713708943507456, 636669664173189891213118380612529236395130622713708943507456, 1445933132982145426207282, 1⟩,
  ⟨636694184107769677854967259591117644687222826345925045125120, 636694184107769677854967259591117644687222826345925045125120, 1445933132982145442983985, 1⟩]
def tldPart_1 : List (TldRow) := tldPart_1_0 ++ tldPart_1_1 ++ tldPart_1_2 ++ tldPart_1_3
def tldPart_2_0 : List (TldRow) := [
  ⟨636694372312531107632639722293752727671682803700963234283520, 636694372312531107632639722293752727671682803700963234283520, 1445933132982141231902772, 1⟩,
  ⟨636694372312531107668516120706564036168602294899051644059648, 636694372312531107668516120706564036168602294899051644059648, 1445933132982141198348593, 1⟩,
  ⟨636695615974489479153239552967599873961292685944174793457664, 636695615974489479153239552967599873961292685944174793457664, 1445933132700670466273593, 1⟩,
  ⟨636744182167243580037714401077237433115804964351222889840640, 636744182167243580037714401077237433115804964351222889840640, 1445933133545091185324087, 1445933134389516048347445⟩,
  ⟨636744563785782110059098984914198842995329358790392916475904, 636744563785782110059098984914198842995329358790392916475904, 1445933133263616158281779, 1⟩,
  ⟨636769273035059602842443993893093809024742975911190534815744, 636769273035059602842443993893093809024742975911190534815744, 1445933132700670466273334, 1⟩,
  ⟨636782547140594138425060356721496471977258480049730376171520, 636782547140594138425060356721496471977258480049730376171520, 1441377291880568130973745, 1⟩,
  ⟨636792641351610274531863958859556955144429352455062379560960, 636792641351610274531863958859556955144429352455062379560960, 1445933133545091185324336, 1⟩,
  ⟨636793122332601602865632011672356433766583427232662143631360, 636793122332601602865632011672356433766583427232662143631360, 1445933133263616158282034, 1⟩,
  ⟨636807067069247992646794090273930876924196379875685313806336, 636807067069247992646794090273930876924196379875685313806336, 1441377291880568130973745, 1⟩,
  ⟨636817890319005357986856246099810125982805687220735735496704, 636817890319005357986856246099810125982805687220735735496704, 1445933132982141265457721, 1⟩,
  ⟨636818214124038726540236399427354470803263986145624856723456, 636818214124038726540236399427354470803263986145624856723456, 1445933132700670466273588, 1⟩,
  ⟨636818316237750222702145339595804069497265310254473448259584, 636818316237750222702145339595804069497265310254473448259584, 1445933133545091202101811, 1445933203913835346211382⟩,
  ⟨636831586997901846868527823826365281871134279701640251441152, 636831586997901846868527823826365281871134279701640251441152, 1441377291880568130973745, 1⟩,
  ⟨636841687168881385387598695684220379227850300338181337251840, 636841687168881385387598695684220379227850300338181337251840, 1445933133826566162034737, 1445933204758264504201527⟩,
  ⟨636856106926555701090261557378799686818072179527595189075968, 636856106926555701090261557378799686818072179527595189075968, 1441377291880568130973745, 1⟩,
  ⟨636867067660374107949703143439603314298158736392560503160832, 636867067660374107949703143439603314298158736392560503160832, 1445933132982145459761206, 1⟩,
  ⟨636867121738255674666431007998057329665329439215035883716608, 636867121738255674666431007998057329665329439215035883716608, 1445933132982141198348593, 1⟩,
  ⟨636890342059388102342669334669522119523297104198143559335936, 636890342059388102342669334669522119523297104198143559335936, 1445933132982141164793908, 1⟩,
  ⟨636890343529558450066669274337884824763844696412952645861376, 636890343529558450066669274337884824763844696412952645861376, 1445933132982145442984502, 1445933134389520326537524⟩,
  ⟨636939188082091917321717677738629944523311798576994393784320, 636939188082091917321717677738629944523311798576994393784320, 1445933132982141198348851, 1⟩,
  ⟨636940432137163089390435617599799104154865796387165022715904, 636940432137163089390435617599799104154865796387165022715904, 1445933132982141148017203, 1⟩,
  ⟨636940435879985377807835486588886617154926904853975898521600, 636940435879985377807835486588886617154926904853975898521600, 1445933132982141164793908, 1⟩,
  ⟨636940436982037872737305798627151368073067563127609059442688, 636940436982037872737305798627151368073067563127609059442688, 1445933133263616175058997, 1⟩,
  ⟨636940820100077024241675122682715100820899140183182951841792, 636940820100077024241675122682715100820899140183182951841792, 1445933133545091134992949, 1⟩,
  ⟨642652713317495956406774210686781569122999840309851359019008, 642652713317495956406774210686781569122999840309851359019008, 1445933133263616242167864, 1⟩,
  ⟨642652907498449498739859534901163183139226963875672748982272, 642652907498449498739859534901163183139226963875672748982272, 1445933132982141198348851, 1⟩,
  ⟨642652909917836614385773271418784218281532170791207076626432, 642652909917836614385773271418784218281532170791207076626432, 1445933133263620419694899, 1⟩,
  ⟨642652910643601022275962614875492943144668022175239581466624, 642652910643601022275962614875492943144668022175239581466624, 1445933133263616158282293, 1⟩,
  ⟨642653289658434422456947883055920191532989631233547065884672, 642653289658434422456947883055920191532989631233547065884672, 1445933133263616242168113, 1⟩,
  ⟨642653345995708750405323889389130912671053917284425483157504, 642653345995708750405323889389130912671053917284425483157504, 1445933133263616158282038, 1⟩,
  ⟨642653389022316953427105801305612387838426015955079548370944, 642653389022316953427105801305612387838426015955079548370944, 1445933133263616141504825, 1⟩,
  ⟨642653769901335654959053508531509272363511202448347708260352, 642653769901335654959053508531509272363511202448347708260352, 1445933132700670483051064, 1⟩,
  ⟨642653770049600709863046451997505295477526111777360615309312, 642653770049600709863046451997505295477526111777360615309312, 1445933133545091185324597, 1⟩,
  ⟨642653863965678686270829511594604238715648197684141704085504, 642653863965678686270829511594604238715648197684141704085504, 1445933132982145459761206, 1⟩,
  ⟨642653868301317893174085185349201689485414349842973961748480, 642653868301317893174085185349201689485414349842973961748480, 1445933133263620436471861, 1⟩,
  ⟨642750505864577657419256552890893778153733473458797605289984, 642750505864577657419256552890893778153733473458797605289984, 1445933133545091185324597, 1⟩,
  ⟨642750601239807495558878350690846609733943413237343940771840, 642750601239807495558878350690846609733943413237343940771840, 1445933132982141198348592, 1⟩,
  ⟨642751851629091992976761524528913346454072117678535230881792, 642751851629091992976761524528913346454072117678535230881792, 1445933133545091218878514, 1⟩,
  ⟨642751851634938133330556327385466934999246885647327996936192, 642751851634938133330556327385466934999246885647327996936192, 1445933133263620419694647, 1⟩,
  ⟨642838969518096131193292544172794493870919737060599971971072, 642838969518096131193292544172794493870919737060599971971072, 1441377291880568130973745, 1⟩,
  ⟨642848303673065252822989400628271384963085977369101006274560, 642848303673065252822989400628271384963085977369101006274560, 1445933133545091218878514, 1445933204758260293120053⟩,
  ⟨642848585562257096116186782527505922440869931500413730684928, 642848585562257096116186782527505922440869931500413730684928, 1445933133545091218878516, 1⟩,
  ⟨642848589145257069393594607517622389769215640723092760690688, 642848589145257069393594607517622389769215640723092760690688, 1445933133545091235656240, 1⟩,
  ⟨642849354644738664024601492570849330573070544028816390488064, 642849354644738664024601492570849330573070544028816390488064, 1445933133263616158282292, 1⟩,
  ⟨642849541874790419211912537808505880190655626111022606057472, 642849541874790419211912537808505880190655626111022606057472, 1445933133263616258945590, 1⟩,
  ⟨642849541878280864948150955350749626207535729708854142828544, 642849541878280864948150955350749626207535729708854142828544, 1445933132982141198348857, 1⟩,
  ⟨642849541878280962637773980481447471126971529650599360462848, 642849541878280962637773980481447471126971529650599360462848, 1445933132982141198348851, 1⟩,
  ⟨642849926337411135479234200469837974536066776800637361324032, 642849926337411135479234200469837974536066776800637361324032, 1445933133545091185324087, 1⟩,
  ⟨642849926506148551701140609899883401391421934401679785984000, 642849926506148551701140609899883401391421934401679785984000, 1445933133263620436471861, 1⟩]
def tldPart_2_1 : List (TldRow) := [
  ⟨642849929477272841849605901620287807333376402913338490617856, 642849929477272841849605901620287807333376402913338490617856, 1445933132982145442984496, 1⟩,
  ⟨642850023240815697067421289046957122956496112067588690804736, 642850023240815697067421289046957122956496112067588690804736, 1445933132982141164794417, 1⟩,
  ⟨642850023394903654948712166460193254397245689772705132314624, 642850023394903654948712166460193254397245689772705132314624, 1445933132982141181571889, 1⟩,
  ⟨642850080110767408887515642188741333612500972919235803086848, 642850080110767408887515642188741333612500972919235803086848, 1445933133263616124727353, 1⟩,
  ⟨642850121414924280020505586110026479160923513739854651326464, 642850121414924280020505586110026479160923513739854651326464, 1445933132982141198348850, 1⟩,
  ⟨642863489446749985415026277725228898817857636886554909605888, 642863489446749985415026277725228898817857636886554909605888, 1441377291880568130973745, 1⟩,
  ⟨642888009375403839636760011277663303764795536712509847240704, 642888009375403839636760011277663303764795536712509847240704, 1441377291880568130973745, 1⟩,
  ⟨642922623503373622910810810390208638479939037559283798507520, 642922623503373622910810810390208638479939037559283798507520, 1445933133545091118215475, 1⟩,
  ⟨642922624995580777192902168576880595578620951150655174606848, 642922624995580777192902168576880595578620951150655174606848, 1445933132982141164793908, 1⟩,
  ⟨642922628958508410119197486338801540607754580152689448976384, 642922628958508410119197486338801540607754580152689448976384, 1445933133545091168547120, 1⟩,
  ⟨642923203798453027572351948227894859098174549216403942014976, 642923203798453027572351948227894859098174549216403942014976, 1445933132700670483051064, 1⟩,
  ⟨642923205663323385515068049485649330964555611668466829885440, 642923205663323385515068049485649330964555611668466829885440, 1445933132982145459761717, 1⟩,
  ⟨642923585051530522459126181824137214889346767296804729913344, 642923585051530522459126181824137214889346767296804729913344, 1445933132982145426207029, 1445933133545091202101817⟩,
  ⟨642924118801585492142985079829490532924934553253076298366976, 642924118801585492142985079829490532924934553253076298366976, 1445933132982141282234677, 1⟩,
  ⟨642937049232711548080227478382532113658671336364419722510336, 642937049232711548080227478382532113658671336364419722510336, 1441377291880568130973745, 1⟩,
  ⟨642986089090019256523694945487400923552547136016329597779968, 642986089090019256523694945487400923552547136016329597779968, 1441377291880568130973745, 1⟩,
  ⟨642996720777834013627649806519901778822508491018989746520064, 642996720777834013627649806519901778822508491018989746520064, 1445933132982141198348601, 1⟩,
  ⟨642996758192275929298764512534233496359353794210862846705664, 642996758192275929298764512534233496359353794210862846705664, 1445933133545095396405552, 1⟩,
  ⟨642996758353620314763745527055847657661868058612341000896512, 642996758353620314763745527055847657661868058612341000896512, 1445933133545091185324595, 1445933204758260293120308⟩,
  ⟨642996764322369986257949585851744223420545775057330593857536, 642996764322369986257949585851744223420545775057330593857536, 1445933133263616141504825, 1⟩,
  ⟨642997045535189841652925454724301087042325722724448256131072, 642997045535189841652925454724301087042325722724448256131072, 1445933133263620436472120, 1⟩,
  ⟨642997046084714457289344951968886584143648138115078892290048, 642997046084714457289344951968886584143648138115078892290048, 1445933133263616158282034, 1⟩,
  ⟨642997051289740611203204269953762748092679690493284128391168, 642997051289740611203204269953762748092679690493284128391168, 1445933132982145426206769, 1⟩,
  ⟨642997052054948645786083372830939125789664273409563330347008, 642997052054948645786083372830939125789664273409563330347008, 1445933133263616225390641, 1⟩,
  ⟨642997336766254477483208681964891773936039962813152062603264, 642997336766254477483208681964891773936039962813152062603264, 1445933132982141164794161, 1⟩,
  ⟨642997582806575750690132633090104550871424276559745974796288, 642997582806575750690132633090104550871424276559745974796288, 1445933133263620436472372, 1⟩,
  ⟨643059648875980819188896146144704138393360835494194410684416, 643059648875980819188896146144704138393360835494194410684416, 1441377291880568130973745, 1⟩,
  ⟨643069360542668869940140386284788059432296185008695025860608, 643069360542668869940140386284788059432296185008695025860608, 1445933133545095396405304, 1⟩,
  ⟨643069365928932744298824034140318956022059840029747797032960, 643069365928932744298824034140318956022059840029747797032960, 1445933133545091101438009, 1⟩,
  ⟨643069993220881663938690064987137402980350261983269149999104, 643069993220881663938690064987137402980350261983269149999104, 1445933132982141265457968, 1⟩,
  ⟨643070319243066961825685190807051013933911438112690905546752, 643070319243066961825685190807051013933911438112690905546752, 1445933132982141198348601, 1⟩,
  ⟨643070321889789257629517271410563711011526466339030479929344, 643070321889789257629517271410563711011526466339030479929344, 1445933133545091185324595, 1445933204758264487424312⟩,
  ⟨643070321889817579798464073268247216478779723018519485349888, 643070321889817579798464073268247216478779723018519485349888, 1445933133545091118215222, 1⟩,
  ⟨643119607764017197090479416472141394240169918662349844119552, 643119607764017197090479416472141394240169918662349844119552, 1445933133545091151769911, 1⟩,
  ⟨643143400900257962878672120305932339266277075371330883289088, 643143400900257962878672120305932339266277075371330883289088, 1445933133545091202101303, 1⟩,
  ⟨643143400906023986365266225089438383366556015450170343817216, 643143400906023986365266225089438383366556015450170343817216, 1445933133545091202101557, 1445933204195310289367606⟩,
  ⟨643143744568785834839998560437819011609811913803524235853824, 643143744568785834839998560437819011609811913803524235853824, 1445933133545095413183025, 1⟩,
  ⟨643143781983227750511113266452150729146657216995397336039424, 643143781983227750511113266452150729146657216995397336039424, 1445933132982141198348851, 1⟩,
  ⟨643144169002679692551957041799129102806635213304147975602176, 643144169002679692551957041799129102806635213304147975602176, 1445933132982141198348851, 1⟩,
  ⟨643144356083609989652992055301225472132173765039456551698432, 643144356083609989652992055301225472132173765039456551698432, 1445933132982141164794161, 1⟩,
  ⟨643241345378544731136665257664110646925943632251368304017408, 643241345378544731136665257664110646925943632251368304017408, 1445933133263616191836722, 1⟩,
  ⟨648919911824251978183258465176526920711518893897424505405440, 648919911824251978183258465176526920711518893897424505405440, 1441377291880568130973745, 1⟩,
  ⟨648930256169152822933052384018960185298508320386499244720128, 648930256169152822933052384018960185298508320386499244720128, 1445933132982141198348593, 1⟩,
  ⟨648930296725015280566320401164173312566625793052904135852032, 648930296725015280566320401164173312566625793052904135852032, 1445933132700670466273588, 1⟩,
  ⟨648930296738976773601586490435047456669808663015530705190912, 648930296738976773601586490435047456669808663015530705190912, 1445933133545091134992946, 1⟩,
  ⟨648930296748385190391904177970983677780419734954565770936320, 648930296748385190391904177970983677780419734954565770936320, 1445933133545091118215473, 1⟩,
  ⟨648930389738710461878931884490124416905046052781486212382720, 648930389738710461878931884490124416905046052781486212382720, 1445933133263616225390648, 1⟩,
  ⟨648930389906783150171985720083548172667418600041918454824960, 648930389906783150171985720083548172667418600041918454824960, 1445933133545091185324082, 1⟩,
  ⟨648930639293038039405266973605716972875804225071279790620672, 648930639293038039405266973605716972875804225071279790620672, 1445933133545091218878516, 1⟩,
  ⟨648930868417662217667700791499664898132199843450800759111680, 648930868417662217667700791499664898132199843450800759111680, 1445933132982145459761459, 1⟩]
def tldPart_2_2 : List (TldRow) := [
  ⟨648931501321779776467749800175919744924720010612036018896896, 648931501321779776467749800175919744924720010612036018896896, 1445933134389516149010489, 1⟩,
  ⟨648944431752905832404992198728961325658456793723379443040256, 648944431752905832404992198728961325658456793723379443040256, 1441377291880568130973745, 1⟩,
  ⟨648954534400511901919385116718811694957425561592953955155968, 648954534400511901919385116718811694957425561592953955155968, 1445933132982141265457719, 1⟩,
  ⟨648993471610213540848459665833830135552332593375289318309888, 648993471610213540848459665833830135552332593375289318309888, 1441377291880568130973745, 1⟩,
  ⟨649004007517056993834360879469641793927969972206754330574848, 649004007517056993834360879469641793927969972206754330574848, 1445933133263616141504819, 1⟩,
  ⟨649017991538867395070193399386264540499270493201244255944704, 649017991538867395070193399386264540499270493201244255944704, 1441377291880568130973745, 1⟩,
  ⟨649027282293083894521397196865116639248696181807172494032896, 649027282293083894521397196865116639248696181807172494032896, 1445933133263616242168376, 1⟩,
  ⟨649028570846463470234587671998700991217648423735282064424960, 649028570846463470234587671998700991217648423735282064424960, 1445933132982141248680242, 1⟩,
  ⟨649028571000551428115878549411937122658398001440398505934848, 649028571000551428115878549411937122658398001440398505934848, 1445933133263616208613936, 1⟩,
  ⟨649028666030257212752155233642030639062670240902299420459008, 649028666030257212752155233642030639062670240902299420459008, 1445933133545091218878776, 1⟩,
  ⟨649042511467521249291927132938698945446208393027199193579520, 649042511467521249291927132938698945446208393027199193579520, 1441377291880568130973745, 1⟩,
  ⟨649067031396175103513660866491133350393146292853154131214336, 649067031396175103513660866491133350393146292853154131214336, 1441377291880568130973745, 1⟩,
  ⟨649076743062863154264905106631217271432081642367654746390528, 649076743062863154264905106631217271432081642367654746390528, 1445933132982145459761717, 1⟩,
  ⟨649091551324828957735394600043567755340084192679109068849152, 649091551324828957735394600043567755340084192679109068849152, 1441377291880568130973745, 1⟩,
  ⟨649116071253482811957128333596002160287022092505064006483968, 649116071253482811957128333596002160287022092505064006483968, 1441377291880568130973745, 1⟩,
  ⟨649125884313308454177093427034925035850808213669540723163136, 649125884313308454177093427034925035850808213669540723163136, 1445933132982141148016952, 1⟩,
  ⟨649125884481381142470147262628348791613180760929972965605376, 649125884481381142470147262628348791613180760929972965605376, 1445933132982141265457208, 1⟩,
  ⟨649127411364755721008338415073226184291837584190314184179712, 649127411364755721008338415073226184291837584190314184179712, 1445933132982141231902772, 1⟩,
  ⟨649127412854613915497923344193777042649143173215899137081344, 649127412854613915497923344193777042649143173215899137081344, 1445933133263616242167862, 1⟩,
  ⟨649189631039444374622329534253305375127835791982928819388416, 649189631039444374622329534253305375127835791982928819388416, 1441377291880568130973745, 1⟩,
  ⟨649198959355714455115069232485061359518451368765979344502784, 649198959355714455115069232485061359518451368765979344502784, 1445933133545091202101816, 1445933204195314567557171⟩,
  ⟨649198964988341765388369079242062704807006126519943365132288, 649198964988341765388369079242062704807006126519943365132288, 1445933132700670483051064, 1⟩,
  ⟨649199304917546090545747921318914261454557385273637603377152, 649199304917546090545747921318914261454557385273637603377152, 1445933132982141282234677, 1⟩,
  ⟨649200299535794438908323364914225921896187178919167409520640, 649200299535794438908323364914225921896187178919167409520640, 1445933132982141231903025, 1⟩,
  ⟨649200299555638890827707031100460330015412959295433118580736, 649200299555638890827707031100460330015412959295433118580736, 1445933132982141215125555, 1⟩,
  ⟨649214150968098228844063267805739780074773691808883757023232, 649214150968098228844063267805739780074773691808883757023232, 1441377291880568130973745, 1⟩,
  ⟨649223481165320916581675021765638144171245514889119464947712, 649223481165320916581675021765638144171245514889119464947712, 1445933132982141265457719, 1⟩,
  ⟨649223576414305624711280006936186061956842471905555155779584, 649223576414305624711280006936186061956842471905555155779584, 1445933133545091134992441, 1⟩,
  ⟨649224782655912985948018128838240635344735046811543905763328, 649224782655912985948018128838240635344735046811543905763328, 1445933132982141215125555, 1⟩,
  ⟨649225644684654723010500955408443407393650832352300134039552, 649225644684654723010500955408443407393650832352300134039552, 1445933132982141282234421, 1⟩,
  ⟨649238670896752083065797001358174185021711591634838694658048, 649238670896752083065797001358174185021711591634838694658048, 1441377291880568130973745, 1⟩,
  ⟨649272805361268768494218437391621968893106143148312763564032, 649272805361268768494218437391621968893106143148312763564032, 1445933133545091202101303, 1⟩,
  ⟨649273572584748697708439359767373572092484221141741471793152, 649273572584748697708439359767373572092484221141741471793152, 1445933133263616158282292, 1⟩,
  ⟨649273572749072930265131985565262006467942523002395931181056, 649273572749072930265131985565262006467942523002395931181056, 1445933133263616141504825, 1⟩,
  ⟨649273573333037536021861653887660206443221127205578933796864, 649273573333037536021861653887660206443221127205578933796864, 1445933133263616158282292, 1⟩,
  ⟨649273822513220694391485595943109445238610846463453781032960, 649273822513220694391485595943109445238610846463453781032960, 1445933133263616158281779, 1⟩,
  ⟨649273860080215014282117021624953157223784009240145586814976, 649273860080215014282117021624953157223784009240145586814976, 1445933133545091202101556, 1445933134108041189077552⟩,
  ⟨649273860105083089350577616543147421745580981248582911787008, 649273860105083089350577616543147421745580981248582911787008, 1445933133545091185324336, 1⟩,
  ⟨649273861050095867532733743137871114301561508751083074224128, 649273861050095867532733743137871114301561508751083074224128, 1445933133263616124727860, 1⟩,
  ⟨649273861208514652432324466095816623766577670909022418501632, 649273861208514652432324466095816623766577670909022418501632, 1445933132982141282234677, 1⟩,
  ⟨649273918294191998509539243339798642132934822634648917508096, 649273918294191998509539243339798642132934822634648917508096, 1445933132982141198348340, 1⟩,
  ⟨649274301418077214981753832926555429710230727319429463408640, 649274301418077214981753832926555429710230727319429463408640, 1445933133263620436471861, 1⟩,
  ⟨649274492980019823217861127719933823498878679661819736358912, 649274492980019823217861127719933823498878679661819736358912, 1441377291880568130973745, 1⟩,
  ⟨649287710754059791509264468463042994915587391286748569927680, 649287710754059791509264468463042994915587391286748569927680, 1441377291880568130973745, 1⟩,
  ⟨649312230682713645730998202015477399862525291112703507562496, 649312230682713645730998202015477399862525291112703507562496, 1441377291880568130973745, 1⟩,
  ⟨649336750611367499952731935567911804809463190938658445197312, 649336750611367499952731935567911804809463190938658445197312, 1441377291880568130973745, 1⟩,
  ⟨649346080812103479320465998648818965213450852827631296970752, 649346080812103479320465998648818965213450852827631296970752, 1445933133263620419694899, 1⟩,
  ⟨649346083422356777060622147110162506307675276100027530870784, 649346083422356777060622147110162506307675276100027530870784, 1445933132700670466273588, 1⟩,
  ⟨649346084920450827440818339980062414882785916073768459960320, 649346084920450827440818339980062414882785916073768459960320, 1445933132982141198348851, 1⟩,
  ⟨649346462438820730810375496710401057447189672615311640100864, 649346462438820730810375496710401057447189672615311640100864, 1445933132982141231903033, 1⟩]
def tldPart_2_3 : List (TldRow) := [
  ⟨649346849665141043270434577694901170459092013474294834135040, 649346849665141043270434577694901170459092013474294834135040, 1445933132982141198348593, 1⟩,
  ⟨649347419487744942279554490204335932769225941320454906052608, 649347419487744942279554490204335932769225941320454906052608, 1445933133826566162035256, 1⟩,
  ⟨649347426237767481772952129475993470861757248877274565967872, 649347426237767481772952129475993470861757248877274565967872, 1445933133263616242167864, 1⟩,
  ⟨649361270540021354174465669120346209756401090764613382832128, 649361270540021354174465669120346209756401090764613382832128, 1441377291880568130973745, 1⟩,
  ⟨649385790468675208396199402672780614703338990590568320466944, 649385790468675208396199402672780614703338990590568320466944, 1441377291880568130973745, 1⟩,
  ⟨649410310397329062617933136225215019650276890416523258101760, 649410310397329062617933136225215019650276890416523258101760, 1441377291880568130973745, 1⟩,
  ⟨649419643950761126452870203494890099863804706753719752982528, 649419643950761126452870203494890099863804706753719752982528, 1445933133545091168547123, 1445933205039735219499061⟩,
  ⟨649419829907243338739392593863020819985037098588669055336448, 649419829907243338739392593863020819985037098588669055336448, 1445933133263620402917943, 1⟩,
  ⟨649420213625959721605284671158677334477860192273414146228224, 649420213625959721605284671158677334477860192273414146228224, 1445933133263616158282292, 1⟩,
  ⟨649420404961369576055102013630484579195484276569134875017216, 649420404961369576055102013630484579195484276569134875017216, 1445933132982141215125813, 1⟩,
  ⟨649420410942487665546728503647386769680184717344974561083392, 649420410942487665546728503647386769680184717344974561083392, 1445933132982141148016952, 1⟩,
  ⟨649421273202954773411253145484551575121319178667260343484416, 649421273202954773411253145484551575121319178667260343484416, 1445933132700670466273334, 1⟩,
  ⟨649459350254636771061400603330083829544152690068433133371392, 649459350254636771061400603330083829544152690068433133371392, 1441377291880568130973745, 1⟩,
  ⟨649508390111944479504868070434952639438028489720343008641024, 649508390111944479504868070434952639438028489720343008641024, 1441377291880568130973745, 1⟩,
  ⟨655207113214089375207797996108438419023642392956113204019200, 655207113214089375207797996108438419023642392956113204019200, 1445933133545095413182514, 1⟩,
  ⟨655207490523312698664979240522679413803899214993363809861632, 655207490523312698664979240522679413803899214993363809861632, 1445933132982141231902772, 1⟩,
  ⟨655207588166254505624603258127536626974738696576553176793088, 655207588166254505624603258127536626974738696576553176793088, 1445933133263616124727860, 1⟩,
  ⟨655208262959889443781152911928852098930898560042373572722688, 655208262959889443781152911928852098930898560042373572722688, 1445933132982141181571889, 1⟩,
  ⟨655232165176107270272782849184669847344520504170503626293248, 655232165176107270272782849184669847344520504170503626293248, 1445933133545091218878772, 1⟩,
  ⟨655280380044970738168171048673524285550957368441611642470400, 655280380044970738168171048673524285550957368441611642470400, 1445933133545091218878774, 1⟩,
  ⟨655280380188754133134355880158227974231066746571570043420672, 655280380188754133134355880158227974231066746571570043420672, 1445933133545091118215473, 1⟩,
  ⟨655304424606195769180587286605950248162971284955682874327040, 655304424606195769180587286605950248162971284955682874327040, 1445933133545091101438518, 1⟩,
  ⟨655304424606197985443180118374946446259586518649450084171776, 655304424606197985443180118374946446259586518649450084171776, 1445933132982141248680752, 1⟩,
  ⟨655305479523329866135471578387956995143629014709680901980160, 655305479523329866135471578387956995143629014709680901980160, 1445933132982141265457462, 1⟩,
  ⟨655305480799851179836666713938941542148866489869929084354560, 655305480799851179836666713938941542148866489869929084354560, 1445933133545091101438518, 1⟩,
  ⟨655306050093569080119970845106515687580519888385745679810560, 655306050093569080119970845106515687580519888385745679810560, 1445933132982141265457721, 1⟩,
  ⟨655306053234992632682725957871521204633758865389080778113024, 655306053234992632682725957871521204633758865389080778113024, 1445933133263616124727860, 1⟩,
  ⟨655355287873274522463635107027199283244307341922664255062016, 655355287873274522463635107027199283244307341922664255062016, 1445933133545091185324595, 1445933204758260293120308⟩,
  ⟨655403939531541234950994419650627993651549683445839333163008, 655403939531541234950994419650627993651549683445839333163008, 1445933132982141215125813, 1⟩,
  ⟨655404224252483843942288708341077945164648187903570763317248, 655404224252483843942288708341077945164648187903570763317248, 1445933133545091185324082, 1⟩,
  ⟨655404320018834167330339399797173339108067264904911451586560, 655404320018834167330339399797173339108067264904911451586560, 1445933133263616191836209, 1⟩,
  ⟨655404475143483378651294515828535060233353636150554145062912, 655404475143483378651294515828535060233353636150554145062912, 1445933132982141215126321, 1⟩,
  ⟨655442212846177201164431590124078636597000247601437916266496, 655442212846177201164431590124078636597000247601437916266496, 1441377291880568130973745, 1⟩,
  ⟨655453323438848478858654688140025476338581483460073747382272, 655453323438848478858654688140025476338581483460073747382272, 1445933133545091168547122, 1⟩,
  ⟨655491252703484909607899057228947446490876047253347791536128, 655491252703484909607899057228947446490876047253347791536128, 1441377291880568130973745, 1⟩,
  ⟨655515772632138763829632790781381851437813947079302729170944, 655515772632138763829632790781381851437813947079302729170944, 1441377291880568130973745, 1⟩,
  ⟨655549815058707028760461231362386065200808102900138831249408, 655549815058707028760461231362386065200808102900138831249408, 1445933133263616191836215, 1⟩,
  ⟨655550674474223346371478908756245734311084597082578093080576, 655550674474223346371478908756245734311084597082578093080576, 1445933132700670466273334, 1⟩,
  ⟨655550676337564108483860110950917048435114538276051144933376, 655550676337564108483860110950917048435114538276051144933376, 1445933132700670483051064, 1⟩,
  ⟨655550770621980380940382171677737874919015739649710536785920, 655550770621980380940382171677737874919015739649710536785920, 1445933133263616208613428, 1⟩,
  ⟨655550770626421952500762492680684467743898026730481086627840, 655550770626421952500762492680684467743898026730481086627840, 1445933133545091202101557, 1⟩,
  ⟨655550770643323790040093779240837508340651553049751616225280, 655550770643323790040093779240837508340651553049751616225280, 1445933132982141215126066, 1⟩,
  ⟨655550770643902861242200226612773773972868418546480638328832, 655550770643902861242200226612773773972868418546480638328832, 1445933133545091202101557, 1⟩,
  ⟨655550866023843645529480027049717061070713981835221235924992, 655550866023843645529480027049717061070713981835221235924992, 1445933133263616175059760, 1⟩,
  ⟨655550866433745735704003308900637845349702328384471116546048, 655550866433745735704003308900637845349702328384471116546048, 1445933133545091202101814, 1445933134389516115456054⟩,
  ⟨655551254765741155901685434211438345609401814077406477025280, 655551254765741155901685434211438345609401814077406477025280, 1445933132982141181571889, 1⟩,
  ⟨655551349430789624608755955585874741798363722139344335536128, 655551349430789624608755955585874741798363722139344335536128, 1445933133545095413182521, 1⟩]
def tldPart_2 : List (TldRow) := tldPart_2_0 ++ tldPart_2_1 ++ tldPart_2_2 ++ tldPart_2_3
def tldPart_3_0 : List (TldRow) := [
  ⟨655551350773245213806029033929698691574749658295271157661696, 655551350773245213806029033929698691574749658295271157661696, 1445933132982141215126321, 1⟩,
  ⟨655551350927333171687319911342934823015499236000387599171584, 655551350927333171687319911342934823015499236000387599171584, 1445933132982141265457462, 1⟩,
  ⟨655551403153463895745589622349763096126333082763893497921536, 655551403153463895745589622349763096126333082763893497921536, 1445933133545091218878768, 1⟩,
  ⟨655551441100471580058704029403844916911164355707197861134336, 655551441100471580058704029403844916911164355707197861134336, 1445933133263616208613942, 1445933204758260309897271⟩,
  ⟨655551441100548941343797732135522904317852172873262107197440, 655551441100548941343797732135522904317852172873262107197440, 1445933133826566128480311, 1⟩,
  ⟨655551444077573095159620179428485862979716150129984033259520, 655551444077573095159620179428485862979716150129984033259520, 1445933133263616208613680, 1⟩,
  ⟨655551542108655068255846376401505936292373742590991886450688, 655551542108655068255846376401505936292373742590991886450688, 1445933132700670483051064, 1⟩,
  ⟨655551690496377808099750564539830686809305011277478907346944, 655551690496377808099750564539830686809305011277478907346944, 1445933132982141265457462, 1⟩,
  ⟨655613852346754180716567724991119471225565546383122479710208, 655613852346754180716567724991119471225565546383122479710208, 1441377291880568130973745, 1⟩,
  ⟨655647795850893335021962462373283572177729961146155161092096, 655647795850893335021962462373283572177729961146155161092096, 1445933133263616225390896, 1⟩,
  ⟨655662892204061889160035192095988281119441346035032354979840, 655662892204061889160035192095988281119441346035032354979840, 1441377291880568130973745, 1⟩,
  ⟨655672374520220996847346284368218773657514986983350866018304, 655672374520220996847346284368218773657514986983350866018304, 1445933133545091151769650, 1445933133826570356339252⟩,
  ⟨655687412132715743381768925648422686066379245860987292614656, 655687412132715743381768925648422686066379245860987292614656, 1441377291880568130973745, 1⟩,
  ⟨655697316632047859148319838046173932070359259561619624034304, 655697316632047859148319838046173932070359259561619624034304, 1445933133545091218878768, 1⟩,
  ⟨655794826171834471828785454825264637541385915753396252442624, 655794826171834471828785454825264637541385915753396252442624, 1445933133545091202101816, 1⟩,
  ⟨655796739523566126735312831856210191258759224862166308880384, 655796739523566126735312831856210191258759224862166308880384, 1445933133263616258945590, 1⟩,
  ⟨661509075349551342800511343814499119971974907272577387855872, 661509075349551342800511343814499119971974907272577387855872, 1445933132982145426206769, 1⟩,
  ⟨661532578727818348238058514957540759442825919375340193447936, 661532578727818348238058514957540759442825919375340193447936, 1445933133263616191836467, 1⟩,
  ⟨661532829030434764077815898193419949764320997728971233689600, 661532829030434764077815898193419949764320997728971233689600, 1445933133263616225391154, 1⟩,
  ⟨661534361525975629966674256540447100073504616468093417291776, 661534361525975629966674256540447100073504616468093417291776, 1445933133263616191836210, 1⟩,
  ⟨661547675080986902376131244680245468384537304264217387335680, 661547675080986902376131244680245468384537304264217387335680, 1441377291880568130973745, 1⟩,
  ⟨661572195009640756597864978232679873331475204090172324970496, 661572195009640756597864978232679873331475204090172324970496, 1441377291880568130973745, 1⟩,
  ⟨661581906676328807349109218372763794370410553604672940146688, 661581906676328807349109218372763794370410553604672940146688, 1445933133545091202101809, 1⟩,
  ⟨661607155064166759687446278024236739759726506576397138395136, 661607155064166759687446278024236739759726506576397138395136, 1445933133263616124727860, 1⟩,
  ⟨661680848589220151228911717664331626802166768729337093947392, 661680848589220151228911717664331626802166768729337093947392, 1445933133263616225390649, 1445933133545095413183025⟩,
  ⟨661728646653893170361427577562512307484565540344699111342080, 661728646653893170361427577562512307484565540344699111342080, 1445933133545091202101297, 1⟩,
  ⟨661743834510217736150001113099720707960040502871856888414208, 661743834510217736150001113099720707960040502871856888414208, 1441377291880568130973745, 1⟩,
  ⟨661768354438871590371734846652155112906978402697811826049024, 661768354438871590371734846652155112906978402697811826049024, 1441377291880568130973745, 1⟩,
  ⟨661777686117257679654966822137197257234869490432788794441728, 661777686117257679654966822137197257234869490432788794441728, 1445933133545091151769910, 1⟩,
  ⟨661777969202155079534791998215119885525484416945361111744512, 661777969202155079534791998215119885525484416945361111744512, 1445933133545091185324087, 1⟩,
  ⟨661778836094774265634519736567185780854190091901060843044864, 661778836094774265634519736567185780854190091901060843044864, 1445933132982141265457719, 1⟩,
  ⟨661778836238603287785670923981867683876457763700834582921216, 661778836238603287785670923981867683876457763700834582921216, 1445933132982141148016690, 1⟩,
  ⟨661792874367525444593468580204589517853916302523766763683840, 661792874367525444593468580204589517853916302523766763683840, 1441377291880568130973745, 1⟩,
  ⟨661802356683684552280779672476820010391989943472085274722304, 661802356683684552280779672476820010391989943472085274722304, 1445933134108041155522871, 1⟩,
  ⟨661802496408290380422770962492906200359197340223167809978368, 661802496408290380422770962492906200359197340223167809978368, 1445933132982141164794417, 1⟩,
  ⟨661802683473129696260179932521496032233438435432434990317568, 661802683473129696260179932521496032233438435432434990317568, 1445933133263616158281780, 1⟩,
  ⟨661802685556628991029877938342795807540860158528649825353728, 661802685556628991029877938342795807540860158528649825353728, 1445933060080122314174777, 1⟩,
  ⟨661802739807569768752994262063576797969285848156865820622848, 661802739807569768752994262063576797969285848156865820622848, 1445933132982141265457968, 1⟩,
  ⟨661803122931454985225208851650333585546581752841646366523392, 661803122931454985225208851650333585546581752841646366523392, 1445933132982141181571377, 1⟩,
  ⟨661803932734100574523873376822780860666159474223628362448896, 661803932734100574523873376822780860666159474223628362448896, 1445933132700670483051064, 1⟩,
  ⟨661803933121289880005791746641510727859662112720499599474688, 661803933121289880005791746641510727859662112720499599474688, 1445933133263620436471859, 1⟩,
  ⟨661803933121310254228418377327782888680596427221573925076992, 661803933121310254228418377327782888680596427221573925076992, 1445933132982141198348857, 1⟩,
  ⟨661803984960196722287691678220536357595497538382402594799616, 661803984960196722287691678220536357595497538382402594799616, 1441377291880568130973745, 1⟩,
  ⟨661804022906625233947255046461009354241069860729035140628480, 661804022906625233947255046461009354241069860729035140628480, 1445933133545091202101816, 1445933203913839557292087⟩,
  ⟨661804022916024406069218277835365925299308500193443147939840, 661804022916024406069218277835365925299308500193443147939840, 1445933132700670483051064, 1⟩,
  ⟨661804028889213678472056256053502419238640825924048633462784, 661804028889213678472056256053502419238640825924048633462784, 1445933133545091202101554, 1⟩,
  ⟨661804214479463036191247593935284937978267257823066446626816, 661804214479463036191247593935284937978267257823066446626816, 1445933132982141198348851, 1⟩,
  ⟨661817394296179298815202313757023922800854202349721701318656, 661817394296179298815202313757023922800854202349721701318656, 1441377291880568130973745, 1⟩,
  ⟨661852014021679822530175178266512737145350811083438511095808, 661852014021679822530175178266512737145350811083438511095808, 1445933133263616225391158, 1⟩,
  ⟨661866434153487007258669780861892732694730002001631576588288, 661866434153487007258669780861892732694730002001631576588288, 1441377291880568130973745, 1⟩]
def tldPart_3_1 : List (TldRow) := [
  ⟨661890954082140861480403514414327137641667901827586514223104, 661890954082140861480403514414327137641667901827586514223104, 1441377291880568130973745, 1⟩,
  ⟨661901054262732167180232306476357509315550932517946893795328, 661901054262732167180232306476357509315550932517946893795328, 1445933132982145459761202, 1⟩,
  ⟨661915474010794715702137247966761542588605801653541451857920, 661915474010794715702137247966761542588605801653541451857920, 1441377291880568130973745, 1⟩,
  ⟨661925188444673142893535301931604351346686534660664632279040, 661925188444673142893535301931604351346686534660664632279040, 1445933133545091101438261, 1445933134389516149010485⟩,
  ⟨661925950582752107272205705835219718305089675450676626325504, 661925950582752107272205705835219718305089675450676626325504, 1445933133545091151769910, 1⟩,
  ⟨661926584603465993396360345982708382330187037512177282973696, 661926584603465993396360345982708382330187037512177282973696, 1445933133263616225390897, 1⟩,
  ⟨661926621056801931394596776805404525554161361995732516601856, 661926621056801931394596776805404525554161361995732516601856, 1445933133263616225390897, 1⟩,
  ⟨661939993939448569923870981519195947535543701479496389492736, 661939993939448569923870981519195947535543701479496389492736, 1441377291880568130973745, 1⟩,
  ⟨661949328468562110710278985034816155803078394819916154798080, 661949328468562110710278985034816155803078394819916154798080, 1445933133263616225391154, 1⟩,
  ⟨661951296094062455854201374328521181065772889680522493558784, 661951296094062455854201374328521181065772889680522493558784, 1445933133545091185324593, 1⟩,
  ⟨661998744877382172548890618564471060549125359763877930205184, 661998744877382172548890618564471060549125359763877930205184, 1445933133545095379628848, 1445933204195310306144817⟩,
  ⟨662023036041569240276383274448729654914431041905679713435648, 662023036041569240276383274448729654914431041905679713435648, 1445933132982145459761459, 1445933134108041138745912⟩,
  ⟨667761126387769869738467222113425316768852933287223182229504, 667761126387769869738467222113425316768852933287223182229504, 1445933133263620402917943, 1⟩,
  ⟨667762555477034564606077491089376919500795092527959620190208, 667762555477034564606077491089376919500795092527959620190208, 1445933133263616158281779, 1⟩,
  ⟨667809643422907532487490745426560025497451424659849858777088, 667809643422907532487490745426560025497451424659849858777088, 1445933133263616124727859, 1⟩,
  ⟨667810984356505790140241808980208782017987091056581769428992, 667810984356505790140241808980208782017987091056581769428992, 1445933133545091134993200, 1445933203913839574069808⟩,
  ⟨667849296745027437361700767655887539747577559534636359483392, 667849296745027437361700767655887539747577559534636359483392, 1441377291880568130973745, 1⟩,
  ⟨667859012527304098836767625457547949715565892400243015680000, 667859012527304098836767625457547949715565892400243015680000, 1445933133545091202101816, 1⟩,
  ⟨667860453152852042105068545520946515479198895567445547810816, 667860453152852042105068545520946515479198895567445547810816, 1445933132982141181571381, 1⟩,
  ⟨667860732627694662407691116013537671041683006487422901944320, 667860732627694662407691116013537671041683006487422901944320, 1445933133263616175059254, 1⟩,
  ⟨667958008147457611352590562898126014805290513841116258762752, 667958008147457611352590562898126014805290513841116258762752, 1445933133545095396405557, 1⟩,
  ⟨668030418561763524601147994795158866914216499264639433965568, 668030418561763524601147994795158866914216499264639433965568, 1445933133263616208613680, 1445933134108041189077304⟩,
  ⟨668031280590505261663630821365361638963132284805395662241792, 668031280590505261663630821365361638963132284805395662241792, 1445933133263616191836722, 1⟩,
  ⟨668045456174258271135570636075362779323080758142275860561920, 668045456174258271135570636075362779323080758142275860561920, 1441377291880568130973745, 1⟩,
  ⟨668056183643044332357579144504552831487366089316131145777152, 668056183643044332357579144504552831487366089316131145777152, 1445933133263620436472120, 1⟩,
  ⟨668080128885870361870990993676852055068360132114915264561152, 668080128885870361870990993676852055068360132114915264561152, 1445933133545091151769656, 1⟩,
  ⟨668094496031565979579038103180231589216956557794185735831552, 668094496031565979579038103180231589216956557794185735831552, 1441377291880568130973745, 1⟩,
  ⟨668103925593361986170077459972254360028078321241963175608320, 668103925593361986170077459972254360028078321241963175608320, 1445933061206022221017145, 1⟩,
  ⟨668103926508850037188617542238757079127884683542766639120384, 668103926508850037188617542238757079127884683542766639120384, 1445933132982141231903033, 1⟩,
  ⟨668105606624237257273261201196178428958537793652821566947328, 668105606624237257273261201196178428958537793652821566947328, 1445933133263620436471861, 1⟩,
  ⟨668106085529093777863529438179624413430157674508797249323008, 668106085529093777863529438179624413430157674508797249323008, 1445933133263620436471861, 1⟩,
  ⟨668119015960219833800771836732665994163894457620140673466368, 668119015960219833800771836732665994163894457620140673466368, 1441377291880568130973745, 1⟩,
  ⟨668129497783323894523310224757984606953476995230014606671872, 668129497783323894523310224757984606953476995230014606671872, 1445933133545091118215735, 1⟩,
  ⟨668129978017556706280669551871715915284199839807040296845312, 668129978017556706280669551871715915284199839807040296845312, 1445933133263616225390648, 1⟩,
  ⟨668251328181349209656482004221104402265710395272798014537728, 668251328181349209656482004221104402265710395272798014537728, 1445933132982141215125813, 1⟩,
  ⟨668252190959763903083879126567496364555673280082621885317120, 668252190959763903083879126567496364555673280082621885317120, 1445933133545091218878514, 1⟩,
  ⟨674039563450411691390627185502849788830318099806079768592384, 674039563450411691390627185502849788830318099806079768592384, 1445933132700670483051064, 1⟩,
  ⟨674111495934054687163838004510628794062827200624125859069952, 674111495934054687163838004510628794062827200624125859069952, 1445933133263616124727353, 1⟩,
  ⟨674126398480414118125536557079095206163679914979100393996288, 674126398480414118125536557079095206163679914979100393996288, 1441377291880568130973745, 1⟩,
  ⟨674137360341044490128182935351223530532930413271297044774912, 674137360341044490128182935351223530532930413271297044774912, 1445933133545091134992437, 1⟩,
  ⟨674137360341067324960176954989920550750589383889325511409664, 674137360341067324960176954989920550750589383889325511409664, 1445933133545091134992437, 1445933205321210179433015⟩,
  ⟨674137360341090228524757490609458425310200019209413216698368, 674137360341090228524757490609458425310200019209413216698368, 1445933133545091134992437, 1⟩,
  ⟨674160879630083600624849619887206088120311336609349525045248, 674160879630083600624849619887206088120311336609349525045248, 1445933133263620436472117, 1⟩,
  ⟨674175438337721826569004024183964016057555714631010269265920, 674175438337721826569004024183964016057555714631010269265920, 1441377291880568130973745, 1⟩,
  ⟨674199958266375680790737757736398421004493614456965206900736, 674199958266375680790737757736398421004493614456965206900736, 1441377291880568130973745, 1⟩,
  ⟨674224478195029535012471491288832825951431514282920144535552, 674224478195029535012471491288832825951431514282920144535552, 1441377291880568130973745, 1⟩,
  ⟨674233768949246034463675288767684924700857202888848382623744, 674233768949246034463675288767684924700857202888848382623744, 1445933133263616258945590, 1⟩,
  ⟨674234099318768149839618142874233990551201230073087857262592, 674234099318768149839618142874233990551201230073087857262592, 1445933204476785282854964, 1⟩,
  ⟨674234918320901683880319057527955287432744916943190020325376, 674234918320901683880319057527955287432744916943190020325376, 1445933132982141148017203, 1⟩,
  ⟨674235051664577393987782523383310948370327751073697976287232, 674235051664577393987782523383310948370327751073697976287232, 1445933133263620402917433, 1445933204758264504201266⟩]
def tldPart_3_2 : List (TldRow) := [
  ⟨674235051674733688569078133896921711328930358464197601263616, 674235051674733688569078133896921711328930358464197601263616, 1445933133545091185324087, 1⟩,
  ⟨674235625980573540653337097912644405117650621700591616786432, 674235625980573540653337097912644405117650621700591616786432, 1445933132700670466273593, 1⟩,
  ⟨674235915415778736515525972809895559789672247006608140271616, 674235915415778736515525972809895559789672247006608140271616, 1445933132982141148016691, 1⟩,
  ⟨674322557909644951899406425498570445739183113586739895074816, 674322557909644951899406425498570445739183113586739895074816, 1441377291880568130973745, 1⟩,
  ⟨674347077838298806121140159051004850686121013412694832709632, 674347077838298806121140159051004850686121013412694832709632, 1441377291880568130973745, 1⟩,
  ⟨674381312213416825297495483166931728498364566138734082260992, 674381312213416825297495483166931728498364566138734082260992, 1445933132982141181571125, 1⟩,
  ⟨674382074355026800467920431816285294945185757896156991455232, 674382074355026800467920431816285294945185757896156991455232, 1445933133263616158282294, 1⟩,
  ⟨674382651637934716535297749921936631225048843013078208479232, 674382651637934716535297749921936631225048843013078208479232, 1445933133545091185324336, 1⟩,
  ⟨674396117695606514564607626155873660579996813064604707979264, 674396117695606514564607626155873660579996813064604707979264, 1441377291880568130973745, 1⟩,
  ⟨674406596358353836573703339589757791124260878012503876960256, 674406596358353836573703339589757791124260878012503876960256, 1445933133545091151769653, 1⟩,
  ⟨674406653602449967550508839791685318955634191896069720244224, 674406653602449967550508839791685318955634191896069720244224, 1445933133263620436472117, 1⟩,
  ⟨674445157552914223008075093260742470473872612716514583248896, 674445157552914223008075093260742470473872612716514583248896, 1441377291880568130973745, 1⟩,
  ⟨674454735650044634813439832929662159906270229836028230762496, 674454735650044634813439832929662159906270229836028230762496, 1445933132982141248680248, 1⟩,
  ⟨674454868845457854602608186340683074337439509199096467423232, 674454868845457854602608186340683074337439509199096467423232, 1445933132982141164794423, 1⟩,
  ⟨674529389211331371751246924676886270548540724215902019518464, 674529389211331371751246924676886270548540724215902019518464, 1445933133545091134992437, 1⟩,
  ⟨674567757196183494116743761022914495208562111846289271422976, 674567757196183494116743761022914495208562111846289271422976, 1441377291880568130973745, 1⟩,
  ⟨674616797053491202560211228127783305102437911498199146692608, 674616797053491202560211228127783305102437911498199146692608, 1441377291880568130973745, 1⟩,
  ⟨674627472304285263586389372057517969146647233385240603918336, 674627472304285263586389372057517969146647233385240603918336, 1445933133263616124727864, 1⟩,
  ⟨674641316982145056781944961680217710049375811324154084327424, 674641316982145056781944961680217710049375811324154084327424, 1441377291880568130973745, 1⟩,
  ⟨680305420501185382002437412292565252792030671119744677969920, 680305420501185382002437412292565252792030671119744677969920, 1441377291880568130973745, 1⟩,
  ⟨680314939263498061875257694023437125006062177784582811680768, 680314939263498061875257694023437125006062177784582811680768, 1445933132982141248680248, 1⟩,
  ⟨680315035431716150813988536798308954239785628433757572694016, 680315035431716150813988536798308954239785628433757572694016, 1445933133545091202101817, 1445933134389520326537529⟩,
  ⟨680315897456090420991891126406758647287471235175762282676224, 680315897456090420991891126406758647287471235175762282676224, 1445933133263620419695157, 1⟩,
  ⟨680315898582255052353833764281382819915214094244582694846464, 680315898582255052353833764281382819915214094244582694846464, 1445933133263620436472372, 1⟩,
  ⟨680315993590751119986060607982665866135729302993480724774912, 680315993590751119986060607982665866135729302993480724774912, 1445933133263616225390901, 1⟩,
  ⟨680315993602337775527256903727802833920501021287953482121216, 680315993602337775527256903727802833920501021287953482121216, 1445933133545091218878516, 1445933204758260293120053⟩,
  ⟨680315993611177545615757258904253035750877832656947553239040, 680315993611177545615757258904253035750877832656947553239040, 1445933133545091202101557, 1445933134389520326537784⟩,
  ⟨680315993822470750659453331942708628704513353143082790420480, 680315993822470750659453331942708628704513353143082790420480, 1445933132700670466273588, 1⟩,
  ⟨680315993989718275615804206355421175963199920734091197022208, 680315993989718275615804206355421175963199920734091197022208, 1445933133263620402917943, 1⟩,
  ⟨680316001453629897688440040451095228469775121091015848493056, 680316001453629897688440040451095228469775121091015848493056, 1445933133545091101438518, 1⟩,
  ⟨680316471763355013989839669173277098229734160409572444995584, 680316471763355013989839669173277098229734160409572444995584, 1445933133263616208613681, 1⟩,
  ⟨680316531093856659696660510308512092533611906978380509085696, 680316531093856659696660510308512092533611906978380509085696, 1445933133263616124727353, 1⟩,
  ⟨680316570540419549233291718813155606516526183332553783508992, 680316570540419549233291718813155606516526183332553783508992, 1445933133545091218878516, 1⟩,
  ⟨680316573909108858776267286951771410164692707376898496266240, 680316573909108858776267286951771410164692707376898496266240, 1445933132982145459761202, 1⟩,
  ⟨680316818436770572050821452498579683216583835491965918511104, 680316818436770572050821452498579683216583835491965918511104, 1445933133263616208613942, 1⟩,
  ⟨680316863856507780331165359220255807942580207121572089036800, 680316863856507780331165359220255807942580207121572089036800, 1445933132982141215126321, 1⟩,
  ⟨680329940429839236224171145844999657738968570945699615604736, 680329940429839236224171145844999657738968570945699615604736, 1441377291880568130973745, 1⟩,
  ⟨680354460358493090445904879397434062685906470771654553239552, 680354460358493090445904879397434062685906470771654553239552, 1441377291880568130973745, 1⟩,
  ⟨680389995098846918243808063569126110480101630285050185515008, 680389995098846918243808063569126110480101630285050185515008, 1445933132982145442984249, 1⟩,
  ⟨680412834144237166732779250636208614600924642685395918651392, 680412834144237166732779250636208614600924642685395918651392, 1445933132982141198348593, 1⟩,
  ⟨680413023087821873593557088246037378600171385774334699110400, 680413023087821873593557088246037378600171385774334699110400, 1445933133263616158281779, 1⟩,
  ⟨680413312669714123629490879715789488961235322349200955408384, 680413312669714123629490879715789488961235322349200955408384, 1445933133545091202101556, 1⟩,
  ⟨680413402105695958081616808361189880639250326275621107269632, 680413402105695958081616808361189880639250326275621107269632, 1445933132982145442984502, 1⟩,
  ⟨680413407185875649443835352037198359161050102599642626654208, 680413407185875649443835352037198359161050102599642626654208, 1445933133545091185324342, 1⟩,
  ⟨680415037875327022684068075735198365179140962961904575184896, 680415037875327022684068075735198365179140962961904575184896, 1445933133263616225391158, 1⟩,
  ⟨680461970009048933080590317459337770460148286555170474557440, 680461970009048933080590317459337770460148286555170474557440, 1445933132982141248680248, 1⟩,
  ⟨680501579930416215776307280712040492367533869727384179048448, 680501579930416215776307280712040492367533869727384179048448, 1441377291880568130973745, 1⟩,
  ⟨680510910138505566032768639655100098192465241105531012120576, 680510910138505566032768639655100098192465241105531012120576, 1445933133263616191836210, 1445933203913835279102004⟩,
  ⟨680511198435143896506475902876438436739724414294120774762496, 680511198435143896506475902876438436739724414294120774762496, 1445933132982145459761459, 1⟩,
  ⟨680511387378075570645605168248813610300793195413079930699776, 680511387378075570645605168248813610300793195413079930699776, 1445933132982141215125813, 1⟩]
def tldPart_3_3 : List (TldRow) := [
  ⟨680511387532163806366897580158669453506149869649246713544704, 680511387532163806366897580158669453506149869649246713544704, 1445933133545091101438265, 1⟩,
  ⟨680511387546813209700738991121569959220083280492672090898432, 680511387546813209700738991121569959220083280492672090898432, 1445933133263620419694896, 1⟩,
  ⟨680511484451616228249650787827455652954751788998030046265344, 680511484451616228249650787827455652954751788998030046265344, 1445933132700670466273334, 1⟩,
  ⟨680511866282932091235873405232259594772413076269055613075456, 680511866282932091235873405232259594772413076269055613075456, 1445933133263620436471861, 1⟩,
  ⟨680511964859756027567944335152597876652986469042049704263680, 680511964859756027567944335152597876652986469042049704263680, 1445933133545091202102065, 1⟩,
  ⟨680512059511565404171583087632100398961108531890458212696064, 680512059511565404171583087632100398961108531890458212696064, 1445933132982141198348851, 1⟩,
  ⟨680512061586318891039092170627071160314745558930633196044288, 680512061586318891039092170627071160314745558930633196044288, 1445933132700670483050807, 1⟩,
  ⟨680512153040402871105563090259812316003967687119295077154816, 680512153040402871105563090259812316003967687119295077154816, 1445933133263620436472120, 1⟩,
  ⟨680512153399313249803744395100756036384361136735971478339584, 680512153399313249803744395100756036384361136735971478339584, 1445933133263616258945334, 1445933204758260242788663⟩,
  ⟨680512155870712518530301229783187088507595722974153408512000, 680512155870712518530301229783187088507595722974153408512000, 1445933132982141148016952, 1⟩,
  ⟨680512350602652178137136954160357884457861544950261367177216, 680512350602652178137136954160357884457861544950261367177216, 1445933133545091168546867, 1445933205321210179433015⟩,
  ⟨680512919873616436534463526595840760609976814152202114301952, 680512919873616436534463526595840760609976814152202114301952, 1445933133263616225390648, 1⟩,
  ⟨680512921531547319317102291309815374729654950438219309645824, 680512921531547319317102291309815374729654950438219309645824, 1445933133263620436472376, 1⟩,
  ⟨680513113089978898229152924795790385033457144745108025901056, 680513113089978898229152924795790385033457144745108025901056, 1445933133263616225391408, 1445933204195314567557689⟩,
  ⟨680550619787723924219774747816909302261409669379294054318080, 680550619787723924219774747816909302261409669379294054318080, 1441377291880568130973745, 1⟩,
  ⟨680584622032536886128819573641574199746421210153567502991360, 680584622032536886128819573641574199746421210153567502991360, 1445933134108041071637042, 1⟩,
  ⟨680585867185163839663516989798533759372632900379104277168128, 680585867185163839663516989798533759372632900379104277168128, 1445933134389520343314485, 1⟩,
  ⟨680658031412441947796139656121263910089116790800102453149696, 680658031412441947796139656121263910089116790800102453149696, 1445933133263616158282293, 1⟩,
  ⟨680658031580514636089193491714687665851489338060534695591936, 680658031580514636089193491714687665851489338060534695591936, 1445933132982141215125813, 1⟩,
  ⟨680658222000213788880408622178547098858072938814176252395520, 680658222000213788880408622178547098858072938814176252395520, 1445933133545091168547383, 1⟩,
  ⟨680658225761468178422278815929069279867716461626356085555200, 680658225761468178422278815929069279867716461626356085555200, 1445933133545091134992441, 1⟩,
  ⟨680658512562164983326674775465569797612947389847590521536512, 680658512562164983326674775465569797612947389847590521536512, 1445933133545091218878516, 1445933204476789544268087⟩,
  ⟨680659043847240185856503600869080186636150695172188544172032, 680659043847240185856503600869080186636150695172188544172032, 1445933133263616191836210, 1⟩,
  ⟨680659272986479380492246447945064960219709143748268838092800, 680659272986479380492246447945064960219709143748268838092800, 1445933132982141181571634, 1⟩,
  ⟨680659853643374906349847033757790722237827641229571619028992, 680659853643374906349847033757790722237827641229571619028992, 1445933133263616124727604, 1⟩,
  ⟨680659853657989922723156062939827570564990471426130944458752, 680659853657989922723156062939827570564990471426130944458752, 1445933132982141231903033, 1⟩,
  ⟨680660039445539561864865927910447190291604213107931740110848, 680660039445539561864865927910447190291604213107931740110848, 1445933133263616175058994, 1⟩,
  ⟨680683563775894040078237334421514591583088594998143481806848, 680683563775894040078237334421514591583088594998143481806848, 1445933133545091202101561, 1⟩,
  ⟨680683602092712627755773502387283195947929050468915846578176, 680683602092712627755773502387283195947929050468915846578176, 1445933133545091202101561, 1⟩,
  ⟨680722259288300903771910882683950136889974968160978617761792, 680722259288300903771910882683950136889974968160978617761792, 1441377291880568130973745, 1⟩,
  ⟨680746779216954757993644616236384541836912867986933555396608, 680746779216954757993644616236384541836912867986933555396608, 1441377291880568130973745, 1⟩,
  ⟨680771299145608612215378349788818946783850767812888493031424, 680771299145608612215378349788818946783850767812888493031424, 1441377291880568130973745, 1⟩,
  ⟨680780877242739024020743089457738636216248384932402140545024, 680780877242739024020743089457738636216248384932402140545024, 1445933133263616258945587, 1⟩,
  ⟨680780913534747682221724354291640402226988329028519047725056, 680780913534747682221724354291640402226988329028519047725056, 1445933132982141265457462, 1⟩,
  ⟨680795819074262466437112083341253351730788667638843430666240, 680795819074262466437112083341253351730788667638843430666240, 1441377291880568130973745, 1⟩,
  ⟨680806392539353820715198945997342792005990920582345502228480, 680806392539353820715198945997342792005990920582345502228480, 1445933133545091202101557, 1⟩,
  ⟨680806585988977719220190354087897038907552699326318050803712, 680806585988977719220190354087897038907552699326318050803712, 1445933133263616191836470, 1445933203913839590846768⟩,
  ⟨680807350579405295431375624018432013761879564406051638870016, 680807350579405295431375624018432013761879564406051638870016, 1445933132982141215125813, 1⟩,
  ⟨680807356733017976477746594238377369906644632803536894164992, 680807356733017976477746594238377369906644632803536894164992, 1445933132982141148016952, 1⟩,
  ⟨680820339002916320658845816893687756677726567464798368301056, 680820339002916320658845816893687756677726567464798368301056, 1441377291880568130973745, 1⟩,
  ⟨680893898788877883324047017550990971518540266942663181205504, 680893898788877883324047017550990971518540266942663181205504, 1441377291880568130973745, 1⟩,
  ⟨686582522236572062766273201715772919208133026564208712482816, 686582522236572062766273201715772919208133026564208712482816, 1441377291880568130973745, 1⟩,
  ⟨686592049992278576708686923858768545728162031635125917188096, 686592049992278576708686923858768545728162031635125917188096, 1445933133545091202101554, 1445933204758260242788407⟩,
  ⟨686592143140194829433535896604840988455523804440883709870080, 686592143140194829433535896604840988455523804440883709870080, 1445933132982145442984496, 1⟩,
  ⟨686592617401289749146443178502756944999732733795408604561408, 686592617401289749146443178502756944999732733795408604561408, 1445933133263616158281779, 1⟩,
  ⟨686592622428021868912208936552894730537587816252169028370432, 686592622428021868912208936552894730537587816252169028370432, 1445933132982141164794161, 1⟩,
  ⟨686592808760723036759887237692537259155130720226723724525568, 686592808760723036759887237692537259155130720226723724525568, 1445933133545091101438261, 1⟩]
def tldPart_3 : List (TldRow) := tldPart_3_0 ++ tldPart_3_1 ++ tldPart_3_2 ++ tldPart_3_3
def tldPart_4_0 : List (TldRow) := [
  ⟨686593058143415515752174415351584577583770405395673724747776, 686593058143415515752174415351584577583770405395673724747776, 1445933133263616225391158, 1⟩,
  ⟨686593094586537890283244658306935048820478713415140363993088, 686593094586537890283244658306935048820478713415140363993088, 1445933132700670483050807, 1⟩,
  ⟨686593096842517370637152786466955263078228482865111530209280, 686593096842517370637152786466955263078228482865111530209280, 1445933132982141164794166, 1⟩,
  ⟨686593249705358123988281710144962971372418357738063997698048, 686593249705358123988281710144962971372418357738063997698048, 1445933133826566162035257, 1⟩,
  ⟨686593481449027490292318500497059515719659935224289269121024, 686593481449027490292318500497059515719659935224289269121024, 1445933132982141215126321, 1⟩,
  ⟨686593481449029841487964882498973169835435093146312357445632, 686593481449029841487964882498973169835435093146312357445632, 1445933132982141148016948, 1⟩,
  ⟨686593481449030054878016331518720792327261289785862456868864, 686593481449030054878016331518720792327261289785862456868864, 1445933133263616158282034, 1⟩,
  ⟨686593484073858482976234220029729338710407218127339962499072, 686593484073858482976234220029729338710407218127339962499072, 1445933133263616124727604, 1⟩,
  ⟨686593484446461295561095526915170524878320919059465326559232, 686593484446461295561095526915170524878320919059465326559232, 1445933133545091202101557, 1⟩,
  ⟨686593575004025925963994402905686598692235785804998271565824, 686593575004025925963994402905686598692235785804998271565824, 1445933133545091218878516, 1445933204758260293120053⟩,
  ⟨686593676378224199012659528115533898935601581009583873196032, 686593676378224199012659528115533898935601581009583873196032, 1445933133545091168547384, 1⟩,
  ⟨686616332919442416439210732747059422904496614996091888205824, 686616332919442416439210732747059422904496614996091888205824, 1445933133263616191836722, 1⟩,
  ⟨686631562093879771209740668820641729102008826216118587752448, 686631562093879771209740668820641729102008826216118587752448, 1441377291880568130973745, 1⟩,
  ⟨686641140191010183015105408489561418534406443335632235266048, 686641140191010183015105408489561418534406443335632235266048, 1445933133545091218878520, 1445933133826566195589937⟩,
  ⟨686641181882362078852054472280957445373493742284642665365504, 686641181882362078852054472280957445373493742284642665365504, 1445933133545091218878520, 1445933133826566195589937⟩,
  ⟨686641850104397300257047093465053382702137122101317811044352, 686641850104397300257047093465053382702137122101317811044352, 1445933133545091202102065, 1⟩,
  ⟨686656082022533625431474402373076134048946726042073525387264, 686656082022533625431474402373076134048946726042073525387264, 1441377291880568130973745, 1⟩,
  ⟨686680601951187479653208135925510538995884625868028463022080, 686680601951187479653208135925510538995884625868028463022080, 1441377291880568130973745, 1⟩,
  ⟨686690180048317891458572875594430228428282242987542110535680, 686690180048317891458572875594430228428282242987542110535680, 1445933133263620436471859, 1⟩,
  ⟨686690219475247561734340899975235960615449264245634322399232, 686690219475247561734340899975235960615449264245634322399232, 1445933132982141198348593, 1⟩,
  ⟨686690319230041817755119581967744217665346770861310043226112, 686690319230041817755119581967744217665346770861310043226112, 1445933132982141181571639, 1⟩,
  ⟨686690983125138587326283683850613232044505090933187583934464, 686690983125138587326283683850613232044505090933187583934464, 1445933132982141248680240, 1⟩,
  ⟨686691079865645963348881555239108035189411784752090169999360, 686691079865645963348881555239108035189411784752090169999360, 1445933132982141265457968, 1⟩,
  ⟨686691083774302958183063599766357124779974960433928133935104, 686691083774302958183063599766357124779974960433928133935104, 1445933132982145442984502, 1⟩,
  ⟨686691137858030932639109349561322197371522004699493475287040, 686691137858030932639109349561322197371522004699493475287040, 1445933133263616191836720, 1⟩,
  ⟨686691181632927973974313555598090306889631009433985002504192, 686691181632927973974313555598090306889631009433985002504192, 1445933132700670466274096, 1⟩,
  ⟨686691233639002236757162996958011394265845980870688611762176, 686691233639002236757162996958011394265845980870688611762176, 1445933133263620402917945, 1445933134108041121968694⟩,
  ⟨686691558179219174111080333055889016363608327341715451019264, 686691558179219174111080333055889016363608327341715451019264, 1445933133826566178812208, 1⟩,
  ⟨686691753105498267625869006072731616895549437737916423995392, 686691753105498267625869006072731616895549437737916423995392, 1445933133545091168547121, 1445933203913835413319735⟩,
  ⟨686729641808495188096675603030379348889760425519938338291712, 686729641808495188096675603030379348889760425519938338291712, 1441377291880568130973745, 1⟩,
  ⟨686754161737149042318409336582813753836698325345893275926528, 686754161737149042318409336582813753836698325345893275926528, 1441377291880568130973745, 1⟩,
  ⟨686788013355218755992606703581108737083433011320791047864320, 686788013355218755992606703581108737083433011320791047864320, 1445933132982141181571889, 1⟩,
  ⟨686788206797311488082542849231255367473285162391990448422912, 686788206797311488082542849231255367473285162391990448422912, 1445933133263616208613680, 1⟩,
  ⟨686789026010703741289936988977681423370625651660922952876032, 686789026010703741289936988977681423370625651660922952876032, 1441377291880568130973745, 1⟩,
  ⟨686789256857810360980714725086108120572961172354779981021184, 686789256857810360980714725086108120572961172354779981021184, 1445933132982141231903284, 1⟩,
  ⟨686789260973398971704537342747684609502014155705886022041600, 686789260973398971704537342747684609502014155705886022041600, 1445933133545091202101554, 1⟩,
  ⟨686789792258474174234366168151194998525217461030484044677120, 686789792258474174234366168151194998525217461030484044677120, 1445933133545091202101302, 1⟩,
  ⟨686789835456639901551092120738075689199431804877791857475584, 686789835456639901551092120738075689199431804877791857475584, 1445933133545091202101303, 1⟩,
  ⟨686827721523110604983610537240116968677512024823758088830976, 686827721523110604983610537240116968677512024823758088830976, 1441377291880568130973745, 1⟩,
  ⟨686852241451764459205344270792551373624449924649713026465792, 686852241451764459205344270792551373624449924649713026465792, 1441377291880568130973745, 1⟩,
  ⟨686861627986952262774601715668092669268199589426836401029120, 686861627986952262774601715668092669268199589426836401029120, 1445933133545091168547381, 1⟩,
  ⟨686863256263464432781513721411809016471707184337153721106432, 686863256263464432781513721411809016471707184337153721106432, 1445933133545091151770160, 1⟩,
  ⟨686876761380418313427078004344985778571387824475667964100608, 686876761380418313427078004344985778571387824475667964100608, 1441377291880568130973745, 1⟩,
  ⟨686886052134634812878281801823837877320813513081596202188800, 686886052134634812878281801823837877320813513081596202188800, 1445933133263616158282545, 1⟩,
  ⟨686901281309072167648811737897420183518325724301622901735424, 686901281309072167648811737897420183518325724301622901735424, 1441377291880568130973745, 1⟩,
  ⟨686925801237726021870545471449854588465263624127577839370240, 686925801237726021870545471449854588465263624127577839370240, 1441377291880568130973745, 1⟩,
  ⟨686935227058077836894473357640444187522700857256167969128448, 686935227058077836894473357640444187522700857256167969128448, 1445933061206026364990000, 1⟩,
  ⟨686935227216496621794064080598389696987717019414107313405952, 686935227216496621794064080598389696987717019414107313405952, 1445933133545095413183024, 1⟩,
  ⟨686935227216610801609480557388874359865272979025017933135872, 686935227216610801609480557388874359865272979025017933135872, 1445933133263620436472371, 1445933134389516165787705⟩,
  ⟨686935415626865091876891475952676043908401185343208394063872, 686935415626865091876891475952676043908401185343208394063872, 1445933132982141148016948, 1⟩]
def tldPart_4_1 : List (TldRow) := [
  ⟨686935475115827737793963858515463474791985217418286623358976, 686935475115827737793963858515463474791985217418286623358976, 1445933132982141181571889, 1⟩,
  ⟨686935858239712954266178448102220262369281122103067169259520, 686935858239712954266178448102220262369281122103067169259520, 1445933133263620402917431, 1⟩,
  ⟨686936241363598170738393037688977049946577026787847715160064, 686936241363598170738393037688977049946577026787847715160064, 1445933133263616242168121, 1⟩,
  ⟨686936373605244556390647464823512015577304484292327223853056, 686936373605244556390647464823512015577304484292327223853056, 1445933132982141148016952, 1⟩,
  ⟨686936375109997507801311791262787146311785004561202520522752, 686936375109997507801311791262787146311785004561202520522752, 1445933132982145442984502, 1⟩,
  ⟨686936380341291018161419175796760845206902609858095403237376, 686936380341291018161419175796760845206902609858095403237376, 1445933133545091235655988, 1⟩,
  ⟨686936380689168001284940869004114100304814950792218351239168, 686936380689168001284940869004114100304814950792218351239168, 1445933133263616208613429, 1445933133826566212366385⟩,
  ⟨686936565165131927949258177388166477569945163638326341664768, 686936565165131927949258177388166477569945163638326341664768, 1445933133545091218878514, 1445933134389520326537529⟩,
  ⟨686936761213051050138697150496319268791423481164781997522944, 686936761213051050138697150496319268791423481164781997522944, 1445933132982145442984249, 1⟩,
  ⟨686936763820298060032103574419846468974856947020907742756864, 686936763820298060032103574419846468974856947020907742756864, 1445933132982141215126321, 1⟩,
  ⟨686936853252629543606576741847293392226963108841699602857984, 686936853252629543606576741847293392226963108841699602857984, 1445933132982141198348852, 1⟩,
  ⟨686936953360427825959705893141709634672743146529192811692032, 686936953360427825959705893141709634672743146529192811692032, 1445933133545095396405554, 1⟩,
  ⟨686936953527606909752911060148667692746363475169249605976064, 686936953527606909752911060148667692746363475169249605976064, 1445933132982141215126066, 1⟩,
  ⟨686937103392339907800875864259179821995492812328603943436288, 686937103392339907800875864259179821995492812328603943436288, 1445933132982141265457968, 1⟩,
  ⟨686937142825115584625967500312800293513524965665319885471744, 686937142825115584625967500312800293513524965665319885471744, 1445933133263616158282293, 1⟩,
  ⟨686937142846241023581100560243575772541174483863574098739200, 686937142846241023581100560243575772541174483863574098739200, 1445933133263616208613942, 1445933134389520343314995⟩,
  ⟨686950321166379876092279205002288993412201523953532777005056, 686950321166379876092279205002288993412201523953532777005056, 1441377291880568130973745, 1⟩,
  ⟨686974841095033730314012938554723398359139423779487714639872, 686974841095033730314012938554723398359139423779487714639872, 1441377291880568130973745, 1⟩,
  ⟨686999361023687584535746672107157803306077323605442652274688, 686999361023687584535746672107157803306077323605442652274688, 1441377291880568130973745, 1⟩,
  ⟨687023880952341438757480405659592208253015223431397589909504, 687023880952341438757480405659592208253015223431397589909504, 1441377291880568130973745, 1⟩,
  ⟨687033459049471850562845145328511897685412840550911237423104, 687033459049471850562845145328511897685412840550911237423104, 1445933133545091202101811, 1⟩,
  ⟨687048400880995292979214139212026613199953123257352527544320, 687048400880995292979214139212026613199953123257352527544320, 1441377291880568130973745, 1⟩,
  ⟨687058936787838745965115352847838271575590502088817539809280, 687058936787838745965115352847838271575590502088817539809280, 1445933133263616158282293, 1⟩,
  ⟨687059165390078850715626206595405065725715304591162181943296, 687059165390078850715626206595405065725715304591162181943296, 1445933133263616158281780, 1445933133826566145257781⟩,
  ⟨687059319911723962437329942434595059152886406773598085709824, 687059319911723962437329942434595059152886406773598085709824, 1445933133263620402917431, 1⟩,
  ⟨687072920809649147200947872764461018146891023083307465179136, 687072920809649147200947872764461018146891023083307465179136, 1441377291880568130973745, 1⟩,
  ⟨687083973581553427166678616396166233816847132173746976063488, 687083973581553427166678616396166233816847132173746976063488, 1445933060080126474924081, 1⟩,
  ⟨687083975051201794327547153600931762846747870068152236769280, 687083975051201794327547153600931762846747870068152236769280, 1445933204195314534003257, 1⟩,
  ⟨687084075319599696054721734551550575718862898481977626722304, 687084075319599696054721734551550575718862898481977626722304, 1445933133545091151769653, 1445933204758260326674481⟩,
  ⟨687084075325448119882867666639449512216315326339442878185472, 687084075325448119882867666639449512216315326339442878185472, 1445933133263620402917939, 1445933133545095413183025⟩,
  ⟨687097440738303001422681606316895423093828922909262402813952, 687097440738303001422681606316895423093828922909262402813952, 1441377291880568130973745, 1⟩,
  ⟨687121960666956855644415339869329828040766822735217340448768, 687121960666956855644415339869329828040766822735217340448768, 1441377291880568130973745, 1⟩,
  ⟨687146480595610709866149073421764232987704722561172278083584, 687146480595610709866149073421764232987704722561172278083584, 1441377291880568130973745, 1⟩,
  ⟨687171000524264564087882806974198637934642622387127215718400, 687171000524264564087882806974198637934642622387127215718400, 1441377291880568130973745, 1⟩,
  ⟨687195520452918418309616540526633042881580522213082153353216, 687195520452918418309616540526633042881580522213082153353216, 1441377291880568130973745, 1⟩,
  ⟨692859623971958743530108991138980585624235382008672746995712, 692859623971958743530108991138980585624235382008672746995712, 1441377291880568130973745, 1⟩,
  ⟨692869010507146547099366436014521881267985046785796121559040, 692869010507146547099366436014521881267985046785796121559040, 1445933133545091218878776, 1⟩,
  ⟨692869240033055686643007934066817489694800717710690130853888, 692869240033055686643007934066817489694800717710690130853888, 1445933133263616191836210, 1445933203913835312656951⟩,
  ⟨692869531119429064306381162210372551920319863676035288530944, 692869531119429064306381162210372551920319863676035288530944, 1445933132982141148017209, 1⟩,
  ⟨692870101886417227225782410452578081817762540892734453972992, 692870101886417227225782410452578081817762540892734453972992, 1445933060361597156667444, 1⟩,
  ⟨692870774012651366377154513436898254533054017437806125645824, 692870774012651366377154513436898254533054017437806125645824, 1445933133545091202101557, 1445933204195310306144566⟩,
  ⟨692870778506692021320029140300766220769728290955492920918016, 692870778506692021320029140300766220769728290955492920918016, 1445933133545091118215473, 1445933205039735269830962⟩,
  ⟨692870971398047347422488178225647197374047387071865302286336, 692870971398047347422488178225647197374047387071865302286336, 1445933132982141231902772, 1⟩,
  ⟨692893434654829097203046522170267089320598970440555922718720, 692893434654829097203046522170267089320598970440555922718720, 1445933133545091218878514, 1⟩,
  ⟨692908663829266451973576458243849395518111181660582622265344, 692908663829266451973576458243849395518111181660582622265344, 1441377291880568130973745, 1⟩,
  ⟨692957703686574160417043925348718205411986981312492497534976, 692957703686574160417043925348718205411986981312492497534976, 1441377291880568130973745, 1⟩,
  ⟨692967186002733268104355017620948697950060622260811008573440, 692967186002733268104355017620948697950060622260811008573440, 1445933133263616191836217, 1⟩,
  ⟨692968814279245438111267023364665045153568217171128328650752, 692968814279245438111267023364665045153568217171128328650752, 1441377291880568130973745, 1⟩,
  ⟨692968851087794549454583883448809347261569018440478971920384, 692968851087794549454583883448809347261569018440478971920384, 1445933133263616208613938, 1⟩,
  ⟨692968852600420489047901865490102823367870498310341076713472, 692968852600420489047901865490102823367870498310341076713472, 1445933133545091168547384, 1⟩]
def tldPart_4_2 : List (TldRow) := [
  ⟨692968858965311210631233907924767528177845686308137502507008, 692968858965311210631233907924767528177845686308137502507008, 1445933132982141265457714, 1⟩,
  ⟨692968953256915449571209866114351907838382608319193892782080, 692968953256915449571209866114351907838382608319193892782080, 1445933132982141164794169, 1⟩,
  ⟨692969101622159350465427965554732635836540145684713738076160, 692969101622159350465427965554732635836540145684713738076160, 1445933132982141265457968, 1⟩,
  ⟨692969140696024612478303618247788751193522143377221031559168, 692969140696024612478303618247788751193522143377221031559168, 1445933133545095379628848, 1445933204195310272590137⟩,
  ⟨692969144648767553487209877471214111003912244355367803289600, 692969144648767553487209877471214111003912244355367803289600, 1445933133263616158282289, 1⟩,
  ⟨692969240803883276761974671928046625073604673558481670766592, 692969240803883276761974671928046625073604673558481670766592, 1445933133545091168546867, 1⟩,
  ⟨692969240950635435643137123269966592957429622905103808724992, 692969240950635435643137123269966592957429622905103808724992, 1445933133545091168546867, 1⟩,
  ⟨692969241346100384211739654581613698011345673850832644210688, 692969241346100384211739654581613698011345673850832644210688, 1445933132982141282234677, 1⟩,
  ⟨692982223615228014638777658901152610358924881138447435169792, 692982223615228014638777658901152610358924881138447435169792, 1441377291880568130973745, 1⟩,
  ⟨692992567960128859388571577743585874945914307627522174484480, 692992567960128859388571577743585874945914307627522174484480, 1445933133545091185324595, 1⟩,
  ⟨693006743543881868860511392453587015305862780964402372804608, 693006743543881868860511392453587015305862780964402372804608, 1441377291880568130973745, 1⟩,
  ⟨693017375231696625964466253486087870575824135967062521544704, 693017375231696625964466253486087870575824135967062521544704, 1445933132982141248680248, 1⟩,
  ⟨693041512036465263713985397451765487945466131108236913278976, 693041512036465263713985397451765487945466131108236913278976, 1445933132982141231902772, 1⟩,
  ⟨693055783401189577303978859558455825199738580616312248074240, 693055783401189577303978859558455825199738580616312248074240, 1441377291880568130973745, 1⟩,
  ⟨693065307247379211386227275506594524203710508107609900318720, 693065307247379211386227275506594524203710508107609900318720, 1445933133263616141504816, 1⟩,
  ⟨693066069753705452763544984078674927604617787157983682101248, 693066069753705452763544984078674927604617787157983682101248, 1445933133545091202101305, 1⟩,
  ⟨693066073655914824437055775682513430957093449639323571847168, 693066073655914824437055775682513430957093449639323571847168, 1445933133545091101438520, 1⟩,
  ⟨693066359109107119722359244635216532937911433737788203204608, 693066359109107119722359244635216532937911433737788203204608, 1445933132700670483051064, 1⟩,
  ⟨693066841381891401707818427507618017814405169741040873111552, 693066841381891401707818427507618017814405169741040873111552, 1445933133263616158281780, 1⟩,
  ⟨693066841381954200606297489742384582397060947527041713963008, 693066841381954200606297489742384582397060947527041713963008, 1445933133545091134993200, 1⟩,
  ⟨693129343187151139969180060215759040040552280094177060978688, 693129343187151139969180060215759040040552280094177060978688, 1441377291880568130973745, 1⟩,
  ⟨693202902973112702634381260873062254881365979572041873883136, 693202902973112702634381260873062254881365979572041873883136, 1441377291880568130973745, 1⟩,
  ⟨693213190963971913541889556699612054761198451148013688586240, 693213190963971913541889556699612054761198451148013688586240, 1445933133263616225390901, 1⟩,
  ⟨693213865557271796887917597966170407257146307240492017909760, 693213865557271796887917597966170407257146307240492017909760, 1445933133545091151769654, 1445933204758260326674488⟩,
  ⟨693213865567448664999510969340530155435105007832677149048832, 693213865567448664999510969340530155435105007832677149048832, 1445933133263620436471859, 1⟩,
  ⟨693214300908697892682765301079076685305919143944263114424320, 693214300908697892682765301079076685305919143944263114424320, 1445933133545091185324087, 1⟩,
  ⟨693214343732853864989592215787202412278819256509297336516608, 693214343732853864989592215787202412278819256509297336516608, 1445933133263620436471861, 1⟩,
  ⟨693214344481907708066304904403736287909181091966235950710784, 693214344481907708066304904403736287909181091966235950710784, 1445933133545091168547121, 1⟩,
  ⟨693227422901766556856114994425496659828303879397996811517952, 693227422901766556856114994425496659828303879397996811517952, 1441377291880568130973745, 1⟩,
  ⟨693276462759074265299582461530365469722179679049906686787584, 693276462759074265299582461530365469722179679049906686787584, 1441377291880568130973745, 1⟩,
  ⟨693285753513290764750786259009217568471605367655834924875776, 693285753513290764750786259009217568471605367655834924875776, 1445933132982141248680248, 1⟩,
  ⟨693287860694659455347966501736379900146732843422127927328768, 693287860694659455347966501736379900146732843422127927328768, 1445933132982141248680241, 1⟩,
  ⟨693336613209053251437273026651181119357636714560452393172992, 693336613209053251437273026651181119357636714560452393172992, 1445933133263616141504563, 1⟩,
  ⟨693350022545035827964783662187668684562993378527771499692032, 693350022545035827964783662187668684562993378527771499692032, 1441377291880568130973745, 1⟩,
  ⟨693457584575810352539029688669636796888818618779909761269760, 693457584575810352539029688669636796888818618779909761269760, 1445933132982141181571632, 1⟩,
  ⟨693472622188305099073452329949840709297682877657546187866112, 693472622188305099073452329949840709297682877657546187866112, 1441377291880568130973745, 1⟩,
  ⟨699171302637986210911311490766988330891293135254581049032704, 699171302637986210911311490766988330891293135254581049032704, 1445933133263616258945587, 1⟩,
  ⟨699172298403572696792419611361040329276653159908708798431232, 699172298403572696792419611361040329276653159908708798431232, 1445933133545091235656247, 1⟩,
  ⟨699269095009687715444085482786658359996072806044815390146560, 699269095009687715444085482786658359996072806044815390146560, 1445933133545091202101809, 1445933204195314567557171⟩,
  ⟨699269134440116997062368520795819009380329989377318096732160, 699269134440116997062368520795819009380329989377318096732160, 1445933133263616208613939, 1⟩,
  ⟨699392023294204198040251146794248766563873926681845622112256, 699392023294204198040251146794248766563873926681845622112256, 1445933132982141181571122, 1⟩,
  ⟨699415781090622685952156646808583258025700371773369649987584, 699415781090622685952156646808583258025700371773369649987584, 1445933133545091168546867, 1⟩,
  ⟨699415781090624992897640135624414114422065720109896193540096, 699415781090624992897640135624414114422065720109896193540096, 1445933133545091168546870, 1⟩,
  ⟨699416064317996357898830584258668350752552691231955489914880, 699416064317996357898830584258668350752552691231955489914880, 1445933133545091218878516, 1445933205039735185945138⟩,
  ⟨699416830797469191877747092157308177509542348570694976012288, 699416830797469191877747092157308177509542348570694976012288, 1445933133545091168547383, 1⟩,
  ⟨699430964851191674954749583191401111403592535364596033126400, 699430964851191674954749583191401111403592535364596033126400, 1441377291880568130973745, 1⟩,
  ⟨699440677407934222840513700517529095566744243849559566974976, 699440677407934222840513700517529095566744243849559566974976, 1445933133263616208613942, 1⟩,
  ⟨699465158657947245099901703809444402677252028481259754749952, 699465158657947245099901703809444402677252028481259754749952, 1445933133263616124727858, 1⟩,
  ⟨699465350219889853336008998602822796465899980823650027700224, 699465350219889853336008998602822796465899980823650027700224, 1445933132982141248680503, 1⟩,
  ⟨699465583472628168073452938074514728319237351871172021583872, 699465583472628168073452938074514728319237351871172021583872, 1445933133263616141504824, 1⟩]
def tldPart_4_3 : List (TldRow) := [
  ⟨699465829124746373926277235586268780937519861679625710075904, 699465829124746373926277235586268780937519861679625710075904, 1445933132700670483051064, 1⟩,
  ⟨699465868571252173555200205695669963481656158228343674634240, 699465868571252173555200205695669963481656158228343674634240, 1445933133263616158282038, 1⟩,
  ⟨699467115979052944138151877130885548212115469113844113080320, 699467115979052944138151877130885548212115469113844113080320, 1445933133545091202101557, 1445933204195310306144566⟩,
  ⟨699490636396314140502171911328770776567429690019166057136128, 699490636396314140502171911328770776567429690019166057136128, 1445933132982141265457462, 1⟩,
  ⟨699514239671141060781595347530078101861657661644230040223744, 699514239671141060781595347530078101861657661644230040223744, 1445933133545091218878520, 1⟩,
  ⟨699562892447393726928616330344559144714200735418192672849920, 699562892447393726928616330344559144714200735418192672849920, 1445933133263616158281779, 1⟩,
  ⟨699562896555674829465784433415117209479672303671019051155456, 699562896555674829465784433415117209479672303671019051155456, 1445933133263616225390649, 1⟩,
  ⟨699563429934505270222943932812560416253651580127469778239488, 699563429934505270222943932812560416253651580127469778239488, 1441377291880568130973745, 1⟩,
  ⟨699563466387880760335035676330603006006460436530809110790144, 699563466387880760335035676330603006006460436530809110790144, 1445933132982141231903027, 1⟩,
  ⟨699563659446463899189695014322032757189624433582068318863360, 699563659446463899189695014322032757189624433582068318863360, 1445933133545091185324594, 1445933133826566128480564⟩,
  ⟨699563660187411277090532634581414308974619044242943857655808, 699563660187411277090532634581414308974619044242943857655808, 1445933133263620436472372, 1⟩,
  ⟨699587415352549808325546100485952006372549550248183570890752, 699587415352549808325546100485952006372549550248183570890752, 1445933132982145459761459, 1⟩,
  ⟨699613663095300116717435899396112590454312785784314106216448, 699613663095300116717435899396112590454312785784314106216448, 1445933132982141265457719, 1⟩,
  ⟨699613714944439932201108816074388785773739070004916427685888, 699613714944439932201108816074388785773739070004916427685888, 1445933133545091168547383, 1⟩,
  ⟨699661605430091991227932514418987232935727155602484665253888, 699661605430091991227932514418987232935727155602484665253888, 1445933132982141231903033, 1⟩,
  ⟨705413827442732105057780569985395918456440092897600816021504, 705413827442732105057780569985395918456440092897600816021504, 1441377291880568130973745, 1⟩,
  ⟨705423730671362764045132104918858233284023394754491704147968, 705423730671362764045132104918858233284023394754491704147968, 1445933133263616158282038, 1⟩,
  ⟨705424309621043950915892084701389640579086224530749691789312, 705424309621043950915892084701389640579086224530749691789312, 1445933133545091101438513, 1445933133826566212366896⟩,
  ⟨705424399810293064775728145764267352283019064147609152126976, 705424399810293064775728145764267352283019064147609152126976, 1445933133545091202101557, 1⟩,
  ⟨705424401305329193210246327520183158680512524384508603006976, 705424401305329193210246327520183158680512524384508603006976, 1445933133263616158282293, 1445933134108041189077304⟩,
  ⟨705424785926697474263620650116436423585433492025745371824128, 705424785926697474263620650116436423585433492025745371824128, 1445933132982141198348601, 1⟩,
  ⟨705424789500068977537678285124445839576745475084500439400448, 705424789500068977537678285124445839576745475084500439400448, 1445933133263620436471863, 1⟩,
  ⟨705424790035557737171507475622408535316194181018138206797824, 705424790035557737171507475622408535316194181018138206797824, 1445933132982141164793908, 1⟩,
  ⟨705424790042286084987443267778012912514486475376851412844544, 705424790042286084987443267778012912514486475376851412844544, 1445933132982141164794161, 1⟩,
  ⟨705424790051055094811428685287235021510784173494787008102400, 705424790051055094811428685287235021510784173494787008102400, 1445933132982145442984247, 1⟩,
  ⟨705424885423396228522973347340360828598424658776269007093760, 705424885423396228522973347340360828598424658776269007093760, 1445933133545091134992434, 1445933204758260309897271⟩,
  ⟨705425416940259903342271904984788742669641209612212329512960, 705425416940259903342271904984788742669641209612212329512960, 1445933133545091218878768, 1⟩,
  ⟨705472394139384800837185629519549964757235444296158191550464, 705472394139384800837185629519549964757235444296158191550464, 1445933133545091168547121, 1⟩,
  ⟨705511907157347521944715504195133538244191692201420566560768, 705511907157347521944715504195133538244191692201420566560768, 1441377291880568130973745, 1⟩,
  ⟨705523017750018799638938602211080377985772928060056397676544, 705523017750018799638938602211080377985772928060056397676544, 1445933133263616225391158, 1⟩,
  ⟨705536427086001376166449237747567943191129592027375504195584, 705536427086001376166449237747567943191129592027375504195584, 1441377291880568130973745, 1⟩,
  ⟨705546529881869935999137268181753058996511914664389735612416, 705546529881869935999137268181753058996511914664389735612416, 1445933133545091202101557, 1⟩,
  ⟨705560947014655230388182971300002348138067491853330441830400, 705560947014655230388182971300002348138067491853330441830400, 1441377291880568130973745, 1⟩,
  ⟨705585466943309084609916704852436753085005391679285379465216, 705585466943309084609916704852436753085005391679285379465216, 1441377291880568130973745, 1⟩,
  ⟨705594800509849036814390849980360127826256811173603314761728, 705594800509849036814390849980360127826256811173603314761728, 1445933132982141282234421, 1⟩,
  ⟨705595045040439496415281444521356442517403008798799026978816, 705595045040439496415281444521356442517403008798799026978816, 1445933133826566162035257, 1⟩,
  ⟨705595564506992929402128471460042978085940262548543232802816, 705595564506992929402128471460042978085940262548543232802816, 1445933133263616191836217, 1⟩,
  ⟨705596139934621614322518937239274665749841165178255125250048, 705596139934621614322518937239274665749841165178255125250048, 1445933133545095413183024, 1⟩,
  ⟨705596142194103145636094848782171417129214713566326836690944, 705596142194103145636094848782171417129214713566326836690944, 1445933132982141148016952, 1⟩,
  ⟨705596142194693722458584565199576112615852243378079468093440, 705596142194693722458584565199576112615852243378079468093440, 1445933132700670466273593, 1⟩,
  ⟨705596142194759679574739590327458228675161481329062900137984, 705596142194759679574739590327458228675161481329062900137984, 1445933132700670483050807, 1⟩,
  ⟨705597099621536455811496204366887838871223899968977814683648, 705597099621536455811496204366887838871223899968977814683648, 1445933132982141231903033, 1⟩,
  ⟨705619316311328519723939143201868138638488793127328629653504, 705619316311328519723939143201868138638488793127328629653504, 1445933133263616158282038, 1445933134389520326537524⟩,
  ⟨705619512214730249540743442593583125737389031124212893351936, 705619512214730249540743442593583125737389031124212893351936, 1445933132982141148016952, 1⟩,
  ⟨705619512737148576997291349777109655706926634884662405627904, 705619512737148576997291349777109655706926634884662405627904, 1445933133263616158281783, 1⟩,
  ⟨705619512760523447606222082534685806211925547513834513629184, 705619512760523447606222082534685806211925547513834513629184, 1445933132982141198348593, 1⟩,
  ⟨705619564969093350637015178073790847464340908624753964613632, 705619564969093350637015178073790847464340908624753964613632, 1445933133263620436472370, 1⟩]
def tldPart_4 : List (TldRow) := tldPart_4_0 ++ tldPart_4_1 ++ tldPart_4_2 ++ tldPart_4_3
def tldPart_5_0 : List (TldRow) := [
  ⟨705620522778806391817551652040682816407580670336705329364992, 705620522778806391817551652040682816407580670336705329364992, 1445933133263620436471861, 1⟩,
  ⟨705620561315681564958799799235444485470531332624334622556160, 705620561315681564958799799235444485470531332624334622556160, 1445933133263620402917945, 1⟩,
  ⟨705620562812259241585644387476017754172005144752009546563584, 705620562812259241585644387476017754172005144752009546563584, 1445933132982141148016952, 1⟩,
  ⟨705620659863854618897058511074694753300319742952520374288384, 705620659863854618897058511074694753300319742952520374288384, 1445933133545091185324082, 1⟩,
  ⟨705621717937846837174052945204195303307899107191757605961728, 705621717937846837174052945204195303307899107191757605961728, 1445933132982141265457719, 1⟩,
  ⟨705659026729270647275117905509739967925819091157150192369664, 705659026729270647275117905509739967925819091157150192369664, 1441377291880568130973745, 1⟩,
  ⟨705683546657924501496851639062174372872756990983105130004480, 705683546657924501496851639062174372872756990983105130004480, 1441377291880568130973745, 1⟩,
  ⟨705692874600050162832880190233787040088004114734236924116992, 705692874600050162832880190233787040088004114734236924116992, 1445933132982141248679986, 1⟩,
  ⟨705692882683615718910104230818367849841765496451199819317248, 705692882683615718910104230818367849841765496451199819317248, 1445933133263616208613936, 1⟩,
  ⟨705692882852352823445760821338121093423593193358391538352128, 705692882852352823445760821338121093423593193358391538352128, 1445933133263620419694647, 1⟩,
  ⟨705694793957137837934545692504288548868459747456269777108992, 705694793957137837934545692504288548868459747456269777108992, 1445933132700670466273588, 1⟩,
  ⟨705694796058175286330910296391291884676034301683590162808832, 705694796058175286330910296391291884676034301683590162808832, 1445933133263616158282292, 1⟩,
  ⟨705708066586578355718585372614608777819694890809060067639296, 705708066586578355718585372614608777819694890809060067639296, 1441377291880568130973745, 1⟩,
  ⟨705732586515232209940319106167043182766632790635015005274112, 705732586515232209940319106167043182766632790635015005274112, 1441377291880568130973745, 1⟩,
  ⟨705742068831391317627630198439273675304706431583333516312576, 705742068831391317627630198439273675304706431583333516312576, 1445933133545091202101297, 1⟩,
  ⟨705767108072498961364436051470632319663057139712487084523520, 705767108072498961364436051470632319663057139712487084523520, 1445933132982141282234935, 1⟩,
  ⟨705767392963013126277341896914916761048106161243417686835200, 705767392963013126277341896914916761048106161243417686835200, 1445933132982145426207029, 1⟩,
  ⟨705767490244086806703103493131568371524050841023392470007808, 705767490244086806703103493131568371524050841023392470007808, 1445933133545091185324595, 1⟩,
  ⟨705768066630500840858394819557810922957033807488275911278592, 705768066630500840858394819557810922957033807488275911278592, 1445933132982145459761206, 1⟩,
  ⟨705768164656338659916715349315360022903568501850983433764864, 705768164656338659916715349315360022903568501850983433764864, 1445933132419191312035895, 1⟩,
  ⟨705830666229847626827254040376780802554384389938834755813376, 705830666229847626827254040376780802554384389938834755813376, 1441377291880568130973745, 1⟩,
  ⟨705839997914070654913637522406614530147517029540917588000768, 705839997914070654913637522406614530147517029540917588000768, 1445933133545091202101816, 1⟩,
  ⟨705840002034852097003540291484217869783234159438883631136768, 705840002034852097003540291484217869783234159438883631136768, 1445933132982141248680498, 1⟩,
  ⟨705840383302630234065508174952294919810850629160629847457792, 705840383302630234065508174952294919810850629160629847457792, 1445933132982141215126321, 1⟩,
  ⟨705840764161187912674823241323340216677907853378714951745536, 705840764161187912674823241323340216677907853378714951745536, 1445933133545091185324087, 1⟩,
  ⟨705841297917662383931208901409281657824345744941494904553472, 705841297917662383931208901409281657824345744941494904553472, 1445933060924547177198135, 1⟩,
  ⟨705841335332104299602323607423613375361191048133368004739072, 705841335332104299602323607423613375361191048133368004739072, 1445933132982141265457721, 1⟩,
  ⟨705841335503667777327502016275353139767358517691618867281920, 705841335503667777327502016275353139767358517691618867281920, 1445933132982141164794161, 1⟩,
  ⟨705841336080393137915745901543900009711927954197205466742784, 705841336080393137915745901543900009711927954197205466742784, 1445933132982141282234677, 1⟩,
  ⟨705841336621727926435530924097484457072207529451406464385024, 705841336621727926435530924097484457072207529451406464385024, 1445933133545091151770160, 1⟩,
  ⟨705841338861630753756454154885512246371014540602445096026112, 705841338861630753756454154885512246371014540602445096026112, 1445933133263620436472625, 1⟩,
  ⟨705841339970102415868906917255308294146039887422237542711296, 705841339970102415868906917255308294146039887422237542711296, 1445933132982141164793908, 1⟩,
  ⟨705841339970102417228182111884942190356837506300219307851776, 705841339970102417228182111884942190356837506300219307851776, 1445933132982141265457462, 1⟩,
  ⟨705841341466594457637585325432248525744615956880745782312960, 705841341466594457637585325432248525744615956880745782312960, 1445933133263616258945331, 1⟩,
  ⟨705841872603490208639530785789416839190289601968665723404288, 705841872603490208639530785789416839190289601968665723404288, 1445933133545091202101816, 1⟩,
  ⟨705841910166174374732241307491972488567087291065052430336000, 705841910166174374732241307491972488567087291065052430336000, 1445933133545091202101816, 1⟩,
  ⟨705855186158501481048987773929215207501322289764789693448192, 705855186158501481048987773929215207501322289764789693448192, 1441377291880568130973745, 1⟩,
  ⟨705879706087155335270721507481649612448260189590744631083008, 705879706087155335270721507481649612448260189590744631083008, 1441377291880568130973745, 1⟩,
  ⟨705913612550996993061712685909625313038947754193822943281152, 705913612550996993061712685909625313038947754193822943281152, 1445933132982141164794422, 1⟩,
  ⟨705953265873116897935922708138952827289073889068609443987456, 705953265873116897935922708138952827289073889068609443987456, 1441377291880568130973745, 1⟩,
  ⟨705962748189276005623233800411183319827147530016927955025920, 705962748189276005623233800411183319827147530016927955025920, 1445933133545091118215473, 1⟩,
  ⟨706002305730424606379390175243821637182949688720519319257088, 706002305730424606379390175243821637182949688720519319257088, 1441377291880568130973745, 1⟩,
  ⟨711690929178118785821616359408603584872542448342064850534400, 711690929178118785821616359408603584872542448342064850534400, 1441377291880568130973745, 1⟩,
  ⟨712069400951627463489803400343385403637102134245109474000896, 712069400951627463489803400343385403637102134245109474000896, 1445933132982141164794162, 1⟩,
  ⟨712191038443627518994134584268416902672377020339164779905024, 712191038443627518994134584268416902672377020339164779905024, 1445933132982141198348598, 1⟩,
  ⟨712191044825439979131876067951009485900482967102614627418112, 712191044825439979131876067951009485900482967102614627418112, 1445933133545091118215222, 1⟩,
  ⟨712215329996008832165335856281956581296311985635437051904000, 712215329996008832165335856281956581296311985635437051904000, 1445933133545091218878516, 1445933204195314534002743⟩,
  ⟨717977552676181791883227858892491392658610337244656422617088, 717977552676181791883227858892491392658610337244656422617088, 1445933133263616175058995, 1⟩,
  ⟨717977648458026571589217553736388260566237404439317800026112, 717977648458026571589217553736388260566237404439317800026112, 1445933133545095379628338, 1⟩,
  ⟨717978125329934314652199831498508642729507604953891315122176, 717978125329934314652199831498508642729507604953891315122176, 1445933133545091202101809, 1445933204195314567557171⟩]
def tldPart_5_1 : List (TldRow) := [
  ⟨718066110628120883472387083041548871076396403090348635586560, 718066110628120883472387083041548871076396403090348635586560, 1441377291880568130973745, 1⟩,
  ⟨718075438796779298594705586534732687362667394888149973860352, 718075438796779298594705586534732687362667394888149973860352, 1445933133263620436471861, 1⟩,
  ⟨718075441938205446533402470823169685546658989822261420097536, 718075441938205446533402470823169685546658989822261420097536, 1445933133545091168547379, 1⟩,
  ⟨718075441960105082039293580205734679403022507177353618128896, 718075441960105082039293580205734679403022507177353618128896, 1445933132982141248680752, 1⟩,
  ⟨718075441960159629662049186109938875769917405069597246226432, 718075441960159629662049186109938875769917405069597246226432, 1445933133263616225390641, 1⟩,
  ⟨718075632393711358648980782281249192431640261188270164017152, 718075632393711358648980782281249192431640261188270164017152, 1445933132700670483050807, 1⟩,
  ⟨718075688725251295277751822710468560508794020209862283100160, 718075688725251295277751822710468560508794020209862283100160, 1445933132982141148016952, 1⟩,
  ⟨718075731922029848085792636802097835479714366076722996051968, 718075731922029848085792636802097835479714366076722996051968, 1445933133263616158282296, 1⟩,
  ⟨718075732660014047297753250607437614120497044072608229752832, 718075732660014047297753250607437614120497044072608229752832, 1445933133263620436472113, 1⟩,
  ⟨718076108284372330409376163115088227703025604917041125392384, 718076108284372330409376163115088227703025604917041125392384, 1445933132982141231902772, 1⟩,
  ⟨718076210804327684260223166348968188252130584721741217529856, 718076210804327684260223166348968188252130584721741217529856, 1445933132982141215126066, 1⟩,
  ⟨718076210804955673245013788696633834078688362581749626044416, 718076210804955673245013788696633834078688362581749626044416, 1445933132982141198348593, 1⟩,
  ⟨718076211030860438046513118670539337323154452768410761691136, 718076211030860438046513118670539337323154452768410761691136, 1445933132982145442984242, 1⟩,
  ⟨718076494400581604054855182251929437022233470641111962746880, 718076494400581604054855182251929437022233470641111962746880, 1445933133545095396405557, 1⟩,
  ⟨718076646534964336458288296677360529452033781921813647851520, 718076646534964336458288296677360529452033781921813647851520, 1445933132982141181571639, 1⟩,
  ⟨718076689935716958636781355653985321794774333624386444066816, 718076689935716958636781355653985321794774333624386444066816, 1445933133263616175059760, 1⟩,
  ⟨718076690078101753046825744410021206714657322991502435024896, 718076690078101753046825744410021206714657322991502435024896, 1445933132982141164793908, 1⟩,
  ⟨718076874543024099762995580421790175088700365206384277454848, 718076874543024099762995580421790175088700365206384277454848, 1445933132700670483051064, 1⟩,
  ⟨718076879794210900674471413206678245326060850791240966340608, 718076879794210900674471413206678245326060850791240966340608, 1445933132982141164793908, 1⟩,
  ⟨718076882015650067726793015790646976871940091350098217271296, 718076882015650067726793015790646976871940091350098217271296, 1445933132982141231902772, 1⟩,
  ⟨718077168840573479227049592637431306266394214480362126442496, 718077168840573479227049592637431306266394214480362126442496, 1445933132982141198348338, 1⟩,
  ⟨718077168983009640740763183608120353890205413206181640404992, 718077168983009640740763183608120353890205413206181640404992, 1445933132982141265457208, 1⟩,
  ⟨718077452216189816129537148807878320246115704313008869081088, 718077452216189816129537148807878320246115704313008869081088, 1445933133263616158282293, 1⟩,
  ⟨718077452216192380715234979829539596853717058874582056828928, 718077452216192380715234979829539596853717058874582056828928, 1445933132982141164794161, 1⟩,
  ⟨718077647160032405454541971990817437223309525627187075481600, 718077647160032405454541971990817437223309525627187075481600, 1445933133263620436472372, 1⟩,
  ⟨718173711569915000344592403778421969640540758662034921357312, 718173711569915000344592403778421969640540758662034921357312, 1445933132982141148016952, 1⟩,
  ⟨718173711712333723631940286769061306886951926240864681066496, 718173711712333723631940286769061306886951926240864681066496, 1445933133545091168547121, 1⟩,
  ⟨718173714340922104723984336692608412470613363929683022839808, 718173714340922104723984336692608412470613363929683022839808, 1445933133263616208613938, 1⟩,
  ⟨718174094863890774835999163767754319453448651187777783726080, 718174094863890774835999163767754319453448651187777783726080, 1445933133545091202101809, 1445933203913835379765816⟩,
  ⟨718174534687637145109115936093719755451137428883243125440512, 718174534687637145109115936093719755451137428883243125440512, 1445933133545095396405557, 1⟩,
  ⟨718174822030551057463276878283787346134109357396828534865920, 718174822030551057463276878283787346134109357396828534865920, 1445933132982141215126066, 1⟩,
  ⟨718174917811522361581330525680476543028433333568023671341056, 718174917811522361581330525680476543028433333568023671341056, 1445933132982145426207029, 1⟩,
  ⟨718272370460091271820382987090014576898657651376050262769664, 718272370460091271820382987090014576898657651376050262769664, 1445933133545095396405812, 1445933204195310390030903⟩,
  ⟨718311309914659425689724418565892920545775401349898011934720, 718311309914659425689724418565892920545775401349898011934720, 1441377291880568130973745, 1⟩,
  ⟨718320831290100615993289917537363145828581712385204266467328, 718320831290100615993289917537363145828581712385204266467328, 1445933133263620419694647, 1445933204758264504201266⟩,
  ⟨718320832432344071438182081866882106610646063973952982614016, 718320832432344071438182081866882106610646063973952982614016, 1445933132982141198348592, 1⟩,
  ⟨718320925962602854066645235229896661121894189875012002906112, 718320925962602854066645235229896661121894189875012002906112, 1445933132982141181571889, 1⟩,
  ⟨718321213310557805271443627719862117848961735210301273407488, 718321213310557805271443627719862117848961735210301273407488, 1445933133545091235656240, 1⟩,
  ⟨718321982384215870875194309154015347930898136831699839877120, 718321982384215870875194309154015347930898136831699839877120, 1445933133263620436471861, 1⟩,
  ⟨718409389629274842576659352775630540333527000653717762473984, 718409389629274842576659352775630540333527000653717762473984, 1441377291880568130973745, 1⟩,
  ⟨718420733688063674058638216321007297505022928429641738747904, 718420733688063674058638216321007297505022928429641738747904, 1445933132982141265457968, 1⟩,
  ⟨718458429486582551020126819880499350227402800305627637743616, 718458429486582551020126819880499350227402800305627637743616, 1441377291880568130973745, 1⟩,
  ⟨718468331769621650654384166736177578287550988445130170564608, 718468331769621650654384166736177578287550988445130170564608, 1445933133826566128480311, 1⟩,
  ⟨718468433360061963162776913992513985229099967748657165369344, 718468433360061963162776913992513985229099967748657165369344, 1445933132700670483050800, 1⟩,
  ⟨718468965393426004006028033516311008603040179137092650008576, 718468965393426004006028033516311008603040179137092650008576, 1445933133263616191836215, 1⟩,
  ⟨718507469343890259463594286985368160121278599957537513013248, 718507469343890259463594286985368160121278599957537513013248, 1441377291880568130973745, 1⟩,
  ⟨718517143221991975387012674050977046448000193248246297001984, 718517143221991975387012674050977046448000193248246297001984, 1445933133263620402917943, 1⟩,
  ⟨718567755785803049524656877265189087007856695156777536192512, 718567755785803049524656877265189087007856695156777536192512, 1445933132982141198348339, 1⟩,
  ⟨724245132648892147349287938255018917704747159230992919560192, 724245132648892147349287938255018917704747159230992919560192, 1441377291880568130973745, 1⟩,
  ⟨724254466213970841395270359734627984927081405284445583310848, 724254466213970841395270359734627984927081405284445583310848, 1445933132982141198348338, 1⟩]
def tldPart_5_2 : List (TldRow) := [
  ⟨724254940096551502218585825791792035638006484916688671211520, 724254940096551502218585825791792035638006484916688671211520, 1445933133263620436471861, 1⟩,
  ⟨724254940266776480032240248885851686642308870842786095562752, 724254940266776480032240248885851686642308870842786095562752, 1445933133263620436472372, 1⟩,
  ⟨724255425154883688076725260846601780801324282637056865206272, 724255425154883688076725260846601780801324282637056865206272, 1445933133263616225390642, 1⟩,
  ⟨724255514782379326926907710171927217003950341943859490062336, 724255514782379326926907710171927217003950341943859490062336, 1445933132982145459761717, 1⟩,
  ⟨724255518684588698600418501775765720356426004425199379808256, 724255518684588698600418501775765720356426004425199379808256, 1445933133263620436471861, 1⟩,
  ⟨724255615946680350062118029376816563379326912513268617576448, 724255615946680350062118029376816563379326912513268617576448, 1445933133545091218878776, 1⟩,
  ⟨724255615972998476768179128842303203786777634502904492589056, 724255615972998476768179128842303203786777634502904492589056, 1445933132982145459761456, 1⟩,
  ⟨724255706143236539422023148179917728306775198905692965568512, 724255706143236539422023148179917728306775198905692965568512, 1445933133263616191836727, 1⟩,
  ⟨724255706143236548084062908707379055690744772182685436084224, 724255706143236548084062908707379055690744772182685436084224, 1445933133263616191836727, 1⟩,
  ⟨724255710235438737768815076373559115590512480567622945996800, 724255710235438737768815076373559115590512480567622945996800, 1445933133263616225391156, 1⟩,
  ⟨724255860117678208571296446684208969869032490404848204775424, 724255860117678208571296446684208969869032490404848204775424, 1445933133263616158282294, 1⟩,
  ⟨724255901647708734966233770360117176334930776947827345981440, 724255901647708734966233770360117176334930776947827345981440, 1445933133263620402917945, 1445933134108041121968694⟩,
  ⟨724256092087218085732207623973065618597473370194461425926144, 724256092087218085732207623973065618597473370194461425926144, 1445933132982141265457208, 1⟩,
  ⟨724256147460592120925457388874276560552004418918433614200832, 724256147460592120925457388874276560552004418918433614200832, 1445933133263620436472120, 1⟩,
  ⟨724256472592092368107444184138819185947190103655810854813696, 724256472592092368107444184138819185947190103655810854813696, 1445933133545091185324087, 1⟩,
  ⟨724256667895479167910662949533630751489522586317388437782528, 724256667895479167910662949533630751489522586317388437782528, 1445933133263616141504816, 1⟩,
  ⟨724269652577546001571021671807453322651685059056947857195008, 724269652577546001571021671807453322651685059056947857195008, 1441377291880568130973745, 1⟩,
  ⟨724279709579532933966654648459818996555702557032437187084288, 724279709579532933966654648459818996555702557032437187084288, 1445933133545091151769910, 1⟩,
  ⟨724280667389245975147191122426710965498942318744388551835648, 724280667389245975147191122426710965498942318744388551835648, 1445933133263620402917945, 1⟩,
  ⟨724294172506199855792755405359887727598622958882902794829824, 724294172506199855792755405359887727598622958882902794829824, 1441377291880568130973745, 1⟩,
  ⟨724303463260416355243959202838739826348048647488831032918016, 724303463260416355243959202838739826348048647488831032918016, 1445933132982141265457460, 1445933204758264520978737⟩,
  ⟨724303559041387659362012850235429023242372623660026169393152, 724303559041387659362012850235429023242372623660026169393152, 1445933132982141248680241, 1⟩,
  ⟨724304170167420408819018407623711259096893229546088911863808, 724304170167420408819018407623711259096893229546088911863808, 1445933133263620436472372, 1⟩,
  ⟨724304174662988330035119984087280416689787003494699376836608, 724304174662988330035119984087280416689787003494699376836608, 1445933132982141248679987, 1⟩,
  ⟨724304175415644511740174519503847764084833615254157277528064, 724304175415644511740174519503847764084833615254157277528064, 1445933133263616175058994, 1⟩,
  ⟨724304175420089263212251256880698607044524364310901988261888, 724304175420089263212251256880698607044524364310901988261888, 1445933133263616141504825, 1⟩,
  ⟨724304177660531310305129663610277823591441647579627859738624, 724304177660531310305129663610277823591441647579627859738624, 1445933132982141198348850, 1⟩,
  ⟨724304178392820568178846956280162223010340077274445696204800, 724304178392820568178846956280162223010340077274445696204800, 1445933132982145459761459, 1⟩,
  ⟨724304267458105745584190167794970144165092882802856207319040, 724304267458105745584190167794970144165092882802856207319040, 1445933132982145442984245, 1⟩,
  ⟨724304366971815352261176508734051558655739337636984983126016, 724304366971815352261176508734051558655739337636984983126016, 1445933133545091202101809, 1445933204195314567557171⟩,
  ⟨724304846846478396761781031248726740860587959524298277781504, 724304846846478396761781031248726740860587959524298277781504, 1445933133263616208613939, 1445933203913835346211383⟩,
  ⟨724304847594767235075203325369013375211324865588135739785216, 724304847594767235075203325369013375211324865588135739785216, 1445933132982141231903027, 1⟩,
  ⟨724318692434853710014489138912322132545560858708857732464640, 724318692434853710014489138912322132545560858708857732464640, 1441377291880568130973745, 1⟩,
  ⟨724343212363507564236222872464756537492498758534812670099456, 724343212363507564236222872464756537492498758534812670099456, 1441377291880568130973745, 1⟩,
  ⟨724352545915470244688422503012631839636131101702148786749440, 724352545915470244688422503012631839636131101702148786749440, 1445933133826566162035257, 1⟩,
  ⟨724352546518476685865919728920233428584664998843313704402944, 724352546518476685865919728920233428584664998843313704402944, 1445933133263616175059256, 1⟩,
  ⟨724352738621751507982314311240922758009995264493497647890432, 724352738621751507982314311240922758009995264493497647890432, 1445933133545091218878768, 1⟩,
  ⟨724352738621776941372427233894293952970317923432066583625728, 724352738621776941372427233894293952970317923432066583625728, 1445933133263616258945335, 1⟩,
  ⟨724352926275062129927733994965700361583644826240825671286784, 724352926275062129927733994965700361583644826240825671286784, 1445933133263616242168113, 1⟩,
  ⟨724353594642345648839017598668640679920438525936898156789760, 724353594642345648839017598668640679920438525936898156789760, 1445933133545091101438261, 1⟩,
  ⟨724353786225548538705672871850263301510006157830845823451136, 724353786225548538705672871850263301510006157830845823451136, 1445933133263616191836209, 1⟩,
  ⟨724354175697302818585488329053888058287315197231117220446208, 724354175697302818585488329053888058287315197231117220446208, 1445933132982141198348593, 1⟩,
  ⟨724354227175207537812392323084014180339756018222253364740096, 724354227175207537812392323084014180339756018222253364740096, 1445933133545091202101305, 1445933204476789544268086⟩,
  ⟨724354552467472965100778439350962137333732835121783185080320, 724354552467472965100778439350962137333732835121783185080320, 1445933133263616258945590, 1⟩,
  ⟨724354610299092754284606912670770967917051922907033910640640, 724354610299092754284606912670770967917051922907033910640640, 1445933132982145459761459, 1⟩,
  ⟨724354706080064058402660560067460164811375899078229047115776, 724354706080064058402660560067460164811375899078229047115776, 1445933133263616175059256, 1⟩,
  ⟨724354751351538776364709354344801543030958715940395498340352, 724354751351538776364709354344801543030958715940395498340352, 1445933132700670466273588, 1⟩,
  ⟨724378651322890087916072409239759388392369941877013165899776, 724378651322890087916072409239759388392369941877013165899776, 1445933133263620436471857, 1⟩,
  ⟨724392252220815272679690339569625347386374558186722545369088, 724392252220815272679690339569625347386374558186722545369088, 1441377291880568130973745, 1⟩,
  ⟨724416772149469126901424073122059752333312458012677483003904, 724416772149469126901424073122059752333312458012677483003904, 1441377291880568130973745, 1⟩]
def tldPart_5_3 : List (TldRow) := [
  ⟨724426104210759578203191081434286386586861212208784870473728, 724426104210759578203191081434286386586861212208784870473728, 1445933133545091202101298, 1⟩,
  ⟨724426105719837593598759762296062710338965490458805500116992, 724426105719837593598759762296062710338965490458805500116992, 1445933133263620436471861, 1⟩,
  ⟨724426107426871506001254370757966594951584057416934710312960, 724426107426871506001254370757966594951584057416934710312960, 1445933133545091134992946, 1445933205039735286607929⟩,
  ⟨724426486593010288581383857849144855533185544873449929834496, 724426486593010288581383857849144855533185544873449929834496, 1445933133263620436472117, 1⟩,
  ⟨724426865443464717498038314608327192248069900084283720073216, 724426865443464717498038314608327192248069900084283720073216, 1445933133263620436471861, 1⟩,
  ⟨724426869353577495570653557584149095692090414531704575229952, 724426869353577495570653557584149095692090414531704575229952, 1445933132982141148016952, 1⟩,
  ⟨724427441793942907126258622822459398077860116499561705373696, 724427441793942907126258622822459398077860116499561705373696, 1445933132700670483050807, 1⟩,
  ⟨724427445741458829557027404890612131244540552590235503951872, 724427445741458829557027404890612131244540552590235503951872, 1445933133545091168547379, 1⟩,
  ⟨724427445905748919023562324219320286147204678829610559864832, 724427445905748919023562324219320286147204678829610559864832, 1445933133545091185324593, 1⟩,
  ⟨724427447767699542928595352670963789496477605790638762098688, 724427447767699542928595352670963789496477605790638762098688, 1445933133545091134993200, 1⟩,
  ⟨724427448360469763654005434311615351472119723813666620964864, 724427448360469763654005434311615351472119723813666620964864, 1445933133263616175059254, 1⟩,
  ⟨724427448530605837194894194918994610876682910478238576803840, 724427448530605837194894194918994610876682910478238576803840, 1445933133545091218878516, 1445933204758264487424565⟩,
  ⟨724427730632529197355929802606669614979027696905486763819008, 724427730632529197355929802606669614979027696905486763819008, 1445933132982145459761968, 1445933203913839574069812⟩,
  ⟨724441292078122981123157806674494157280250357838632420638720, 724441292078122981123157806674494157280250357838632420638720, 1441377291880568130973745, 1⟩,
  ⟨724451676456476675641044460952262359631664258743011377152000, 724451676456476675641044460952262359631664258743011377152000, 1445933133545091185324087, 1⟩,
  ⟨724451864276975092310040285144207581666627680766214340083712, 724451864276975092310040285144207581666627680766214340083712, 1445933133545091134993200, 1⟩,
  ⟨724451866680262956735595721484674270791455915677239258120192, 724451866680262956735595721484674270791455915677239258120192, 1445933132700670466273334, 1⟩,
  ⟨724452440459380593645206757764916031734045349921060082941952, 724452440459380593645206757764916031734045349921060082941952, 1445933133263616158282038, 1⟩,
  ⟨724465812006776835344891540226928562227188257664587358273536, 724465812006776835344891540226928562227188257664587358273536, 1441377291880568130973745, 1⟩,
  ⟨724490331935430689566625273779362967174126157490542295908352, 724490331935430689566625273779362967174126157490542295908352, 1441377291880568130973745, 1⟩,
  ⟨724500388937417621962258250431728641078143655466031625797632, 724500388937417621962258250431728641078143655466031625797632, 1445933133263616191836976, 1⟩,
  ⟨724500430093303729200484427047493530368673488977092036001792, 724500430093303729200484427047493530368673488977092036001792, 1445933133545091101438261, 1⟩,
  ⟨724501921432958487851116608778755791387327274205153809399808, 724501921432958487851116608778755791387327274205153809399808, 1445933132982145459761458, 1⟩,
  ⟨724501963484745098773186274253379483132938598765300868448256, 724501963484745098773186274253379483132938598765300868448256, 1445933133263616208613939, 1⟩,
  ⟨724514851864084543788359007331797372121064057316497233543168, 724514851864084543788359007331797372121064057316497233543168, 1441377291880568130973745, 1⟩,
  ⟨724524950172492252067301161174907473085388539827608025563136, 724524950172492252067301161174907473085388539827608025563136, 1445933133545091218878768, 1⟩,
  ⟨724539371792738398010092740884231777068001957142452171177984, 724539371792738398010092740884231777068001957142452171177984, 1441377291880568130973745, 1⟩,
  ⟨724548705368952871256752041731049474404520121667203918462976, 724548705368952871256752041731049474404520121667203918462976, 1445933133545091202101557, 1⟩,
  ⟨724549469349934264700950794770647874016156967550413636108288, 724549469349934264700950794770647874016156967550413636108288, 1445933133263620436471861, 1⟩,
  ⟨724563891721392252231826474436666182014939856968407108812800, 724563891721392252231826474436666182014939856968407108812800, 1441377291880568130973745, 1⟩,
  ⟨724573412200282113903674566843515026440595707172436182040576, 724573412200282113903674566843515026440595707172436182040576, 1445933133263616208613427, 1⟩,
  ⟨724588411650046106453560207989100586961877756794362046447616, 724588411650046106453560207989100586961877756794362046447616, 1441377291880568130973745, 1⟩,
  ⟨724597931154765200973569971659854226367841802670074645970944, 724597931154765200973569971659854226367841802670074645970944, 1445933133263616191836467, 1⟩,
  ⟨724597933393751455419888299310753991225920600899690115891200, 724597933393751455419888299310753991225920600899690115891200, 1445933132982141148016948, 1⟩,
  ⟨724598224853655143639710132912727151205773256088797164077056, 724598224853655143639710132912727151205773256088797164077056, 1445933133545091101438262, 1⟩,
  ⟨724598224884346766703966172726935618955944893079821798604800, 724598224884346766703966172726935618955944893079821798604800, 1445933132982141215126321, 1⟩,
  ⟨724598416645958776066343743281545173489680283333147767078912, 724598416645958776066343743281545173489680283333147767078912, 1445933132982141181571637, 1⟩,
  ⟨724598792453566796060058324340655688489263391620330002841600, 724598792453566796060058324340655688489263391620330002841600, 1445933132700670483051064, 1⟩,
  ⟨724598799939980111504080536118677646660879095356670584291328, 724598799939980111504080536118677646660879095356670584291328, 1445933132700670483051064, 1⟩,
  ⟨724598986093764732580709568819673914400465797913456351903744, 724598986093764732580709568819673914400465797913456351903744, 1445933133545091118215732, 1⟩,
  ⟨724598992828364277401510215902253623557097952487993509937152, 724598992828364277401510215902253623557097952487993509937152, 1445933133263616175059254, 1⟩,
  ⟨724600001147573904738051542988493411175078873508973559939072, 724600001147573904738051542988493411175078873508973559939072, 1445933132982141198348601, 1⟩,
  ⟨724622222332916460126497739020387090658241345226245222170624, 724622222332916460126497739020387090658241345226245222170624, 1445933203913839557292343, 1⟩,
  ⟨724622259520825622011322492713147659124062780371448778194944, 724622259520825622011322492713147659124062780371448778194944, 1445933132982141215126320, 1⟩,
  ⟨724623026520386913092170420942602071684055103902300472606720, 724623026520386913092170420942602071684055103902300472606720, 1445933132982141248680248, 1445933134108045366604085⟩,
  ⟨724623606088512691574704305942001445765869487541800642019328, 724623606088512691574704305942001445765869487541800642019328, 1445933134108041054859568, 1⟩,
  ⟨724623606667267339957741861550660639521517563325549929037824, 724623606667267339957741861550660639521517563325549929037824, 1445933133545091118215481, 1⟩]
def tldPart_5 : List (TldRow) := tldPart_5_0 ++ tldPart_5_1 ++ tldPart_5_2 ++ tldPart_5_3
def tldPart_6_0 : List (TldRow) := [
  ⟨724623888540353717170413392406347612845188781806284259196928, 724623888540353717170413392406347612845188781806284259196928, 1445933133263616158282035, 1445933204195310306144817⟩,
  ⟨724661971436007669118761408646403801802691456272226859352064, 724661971436007669118761408646403801802691456272226859352064, 1441377291880568130973745, 1⟩,
  ⟨724672315780908513868555327488837066389680882761301598666752, 724672315780908513868555327488837066389680882761301598666752, 1445933133263616225391156, 1⟩,
  ⟨724673082028678946812984506662350641544272692130862690467840, 724673082028678946812984506662350641544272692130862690467840, 1445933133545091202101816, 1445933134389520326537529⟩,
  ⟨724686491364661523340495142198838206749629356098181796986880, 724686491364661523340495142198838206749629356098181796986880, 1441377291880568130973745, 1⟩,
  ⟨724711011293315377562228875751272611696567255924136734621696, 724711011293315377562228875751272611696567255924136734621696, 1441377291880568130973745, 1⟩,
  ⟨724720339603739451505644962310213856756317700628563529564160, 724720339603739451505644962310213856756317700628563529564160, 1445933133263616258945331, 1⟩,
  ⟨724720344110128172050369697945783020159877200824475376943104, 724720344110128172050369697945783020159877200824475376943104, 1445933133545091202101557, 1⟩,
  ⟨724720344699995660878503438086462868437996590168800306921472, 724720344699995660878503438086462868437996590168800306921472, 1445933133263620436472370, 1⟩,
  ⟨724720344852661968554133186805049239374583107476272002891776, 724720344852661968554133186805049239374583107476272002891776, 1445933133263616208613938, 1445933134389516149010482⟩,
  ⟨724720345596457818448933586443308794676984758476207105769472, 724720345596457818448933586443308794676984758476207105769472, 1445933133545091151769910, 1⟩,
  ⟨724720345596480654761146590262288590765918297623383414669312, 724720345596480654761146590262288590765918297623383414669312, 1445933133263620436472372, 1⟩,
  ⟨724720345611113033447073900584702285184983145394769680662528, 724720345611113033447073900584702285184983145394769680662528, 1445933133263616208613689, 1445933134108045333049395⟩,
  ⟨724720493609474485249539968023503104234640896872455245660160, 724720493609474485249539968023503104234640896872455245660160, 1445933133263616242168377, 1⟩,
  ⟨724720532313597161965836746520729907298598043383369146826752, 724720532313597161965836746520729907298598043383369146826752, 1445933133263616242168376, 1⟩,
  ⟨724721680178404526243094282819934032209555976618388666449920, 724721680178404526243094282819934032209555976618388666449920, 1445933133263616258945590, 1⟩,
  ⟨724721685775949855777011991769802362658970438952859469873152, 724721685775949855777011991769802362658970438952859469873152, 1445933133263620436472120, 1⟩,
  ⟨724721685781205583901675696378683793062876841550781404413952, 724721685781205583901675696378683793062876841550781404413952, 1445933133545091118215730, 1⟩,
  ⟨724721968255018320663287913622214933817873728450262458171392, 724721968255018320663287913622214933817873728450262458171392, 1445933133545091134992696, 1⟩,
  ⟨724722255235491244940926579776817152274963064050267658911744, 724722255235491244940926579776817152274963064050267658911744, 1445933133263616225390648, 1⟩,
  ⟨724722255258241573162659580280886230627988016524208640098304, 724722255258241573162659580280886230627988016524208640098304, 1445933133263616141505077, 1⟩,
  ⟨724722641346052110141945287984715858953905885071220383154176, 724722641346052110141945287984715858953905885071220383154176, 1445933133263616141504564, 1⟩,
  ⟨724735531221969231783962609303707016643505155750091672256512, 724735531221969231783962609303707016643505155750091672256512, 1441377291880568130973745, 1⟩,
  ⟨724745053739653877532420272604696202708375818374146642935808, 724745053739653877532420272604696202708375818374146642935808, 1445933133263616141505077, 1⟩,
  ⟨724746300753374121813471540530356693958878560854734547189760, 724746300753374121813471540530356693958878560854734547189760, 1445933132982141164794421, 1⟩,
  ⟨724746300753463203272626788217378764791629348267694793687040, 724746300753463203272626788217378764791629348267694793687040, 1445933132982141164794417, 1⟩,
  ⟨724746300757810332135666759647604605425953238672778568138752, 724746300757810332135666759647604605425953238672778568138752, 1445933132700670483050808, 1⟩,
  ⟨724746488415428655226615412660893814484020648522047792611328, 724746488415428655226615412660893814484020648522047792611328, 1445933132982141231903032, 1⟩,
  ⟨724746488937838263091790694370772003987713646773148466544640, 724746488937838263091790694370772003987713646773148466544640, 1445933132982141198348851, 1⟩,
  ⟨724747260432345494747054913134395904476950324430855385120768, 724747260432345494747054913134395904476950324430855385120768, 1445933132982141248679986, 1⟩,
  ⟨724760051150623086005696342856141421590443055576046609891328, 724760051150623086005696342856141421590443055576046609891328, 1441377291880568130973745, 1⟩,
  ⟨724793905379528458993052001076737763031750204633175126179840, 724793905379528458993052001076737763031750204633175126179840, 1445933133263616208613942, 1⟩,
  ⟨724794666414096492320783179717498454153631767609759026380800, 724794666414096492320783179717498454153631767609759026380800, 1445933133545091202101809, 1445933204195314534002741⟩,
  ⟨724794671275944763937898800570846731371143099308577185071104, 724794671275944763937898800570846731371143099308577185071104, 1445933133263616175059513, 1⟩,
  ⟨724809091007930794449163809961010231484318855227956485160960, 724809091007930794449163809961010231484318855227956485160960, 1441377291880568130973745, 1⟩,
  ⟨724833610936584648670897543513444636431256755053911422795776, 724833610936584648670897543513444636431256755053911422795776, 1441377291880568130973745, 1⟩,
  ⟨724843230337903620968179339119133593667742346315743916720128, 724843230337903620968179339119133593667742346315743916720128, 1445933132982145442983989, 1⟩,
  ⟨724844087515895139774922619810886953335237387950978035089408, 724844087515895139774922619810886953335237387950978035089408, 1445933133263620436471859, 1445933203913835379765559⟩,
  ⟨724844669297273754375698877377701929015880485870210165768192, 724844669297273754375698877377701929015880485870210165768192, 1445933132700670483050807, 1⟩,
  ⟨724858130865238502892631277065879041378194654879866360430592, 724858130865238502892631277065879041378194654879866360430592, 1441377291880568130973745, 1⟩,
  ⟨730531620919466631682381172553767879764599179452580328636416, 730531620919466631682381172553767879764599179452580328636416, 1445933133263620419694899, 1⟩,
  ⟨730532333438651815461762872955260429877647125168374096592896, 730532333438651815461762872955260429877647125168374096592896, 1445933132982145426207283, 1⟩,
  ⟨730532618762632522631010381955994786472263415579835910586368, 730532618762632522631010381955994786472263415579835910586368, 1445933133545091134992949, 1⟩,
  ⟨730532902880646019371430029857719830320834295553332137164800, 730532902880646019371430029857719830320834295553332137164800, 1445933133545091101438513, 1⟩,
  ⟨730533192100156579012324438218939911930902611207862586703872, 730533192100156579012324438218939911930902611207862586703872, 1445933133545091218878516, 1⟩,
  ⟨730533381428898737047809773825640761688462234663474285248512, 730533381428898737047809773825640761688462234663474285248512, 1445933133263616225391156, 1⟩,
  ⟨730533381435569950664051023203295260802826958870986002268160, 730533381435569950664051023203295260802826958870986002268160, 1445933132982141265457207, 1⟩,
  ⟨730533388540563107705131554778597111607114293259028033175552, 730533388540563107705131554778597111607114293259028033175552, 1445933132700670466273588, 1⟩,
  ⟨730533728100835322279561415280930211439726655218873331089408, 730533728100835322279561415280930211439726655218873331089408, 1445933132982141198348851, 1⟩,
  ⟨730533767385999333734231856595978514853414223570340086284288, 730533767385999333734231856595978514853414223570340086284288, 1445933133263616191836215, 1⟩]
def tldPart_6_1 : List (TldRow) := [
  ⟨730571274241586536556591194783095394014725314327366829342720, 730571274241586536556591194783095394014725314327366829342720, 1441377291880568130973745, 1⟩,
  ⟨730581331243573468952224171435461067918742812302856159232000, 730581331243573468952224171435461067918742812302856159232000, 1445933133263620436471861, 1⟩,
  ⟨730595794170240390778324928335529798961663214153321766977536, 730595794170240390778324928335529798961663214153321766977536, 1441377291880568130973745, 1⟩,
  ⟨730606042734169931410065199781273866654328664471201369817088, 730606042734169931410065199781273866654328664471201369817088, 1445933133545091185324087, 1⟩,
  ⟨730629645634852432532777488922437874773188183064346621902848, 730629645634852432532777488922437874773188183064346621902848, 1445933133263616175059254, 1⟩,
  ⟨730629835326072944985329048415099682684993870247143239843840, 730629835326072944985329048415099682684993870247143239843840, 1445933133263616158282289, 1⟩,
  ⟨730629835487474241252444915717728193444395814273783949164544, 730629835487474241252444915717728193444395814273783949164544, 1445933132700670466273588, 1⟩,
  ⟨730630658443795089749852580730397468495590540468351443927040, 730630658443795089749852580730397468495590540468351443927040, 1445933061768972073775154, 1⟩,
  ⟨730630696377672128131403953152356044138696570611748162240512, 730630696377672128131403953152356044138696570611748162240512, 1445933133545091118215733, 1445933134108041172300089⟩,
  ⟨730630696382090751823570728292973746662365935043889762140160, 730630696382090751823570728292973746662365935043889762140160, 1445933133263616208613942, 1445933134389520343314995⟩,
  ⟨730630790685426734609530779123035879016539777405875499565056, 730630790685426734609530779123035879016539777405875499565056, 1445933133263616124727860, 1⟩,
  ⟨730630891315738011082575600096214470555924811148411107540992, 730630891315738011082575600096214470555924811148411107540992, 1445933133263616141504564, 1⟩,
  ⟨730631652545516789131370319531191203449570246276419715858432, 730631652545516789131370319531191203449570246276419715858432, 1445933133545091151769907, 1⟩,
  ⟨730644834027548099221792395440398608855539013805231642247168, 730644834027548099221792395440398608855539013805231642247168, 1441377291880568130973745, 1⟩,
  ⟨730669353956201953443526128992833013802476913631186579881984, 730669353956201953443526128992833013802476913631186579881984, 1441377291880568130973745, 1⟩,
  ⟨730693873884855807665259862545267418749414813457141517516800, 730693873884855807665259862545267418749414813457141517516800, 1441377291880568130973745, 1⟩,
  ⟨730703451981986219470624602214187108181812430576655165030400, 730703451981986219470624602214187108181812430576655165030400, 1445933133263616191836722, 1⟩,
  ⟨730703584225079522072850093239391194285505859072365695074304, 730703584225079522072850093239391194285505859072365695074304, 1445933133263616191836214, 1⟩,
  ⟨730703584225153449043183222255105385191579688390758020153344, 730703584225153449043183222255105385191579688390758020153344, 1445933133263616258945331, 1⟩,
  ⟨730727720859734819539178658410455688456518345985141600419840, 730727720859734819539178658410455688456518345985141600419840, 1445933133545091202101808, 1⟩,
  ⟨730727916311398092227932014950311743400621333936823152410624, 730727916311398092227932014950311743400621333936823152410624, 1445933133263616158282293, 1⟩,
  ⟨730728108994201420886498364033294697541378846163375409332224, 730728108994201420886498364033294697541378846163375409332224, 1445933132982141148017203, 1⟩,
  ⟨730728201777709782109059858313441459226928713219087026618368, 730728201777709782109059858313441459226928713219087026618368, 1445933133545091101438513, 1445933204758260309897781⟩,
  ⟨730729164308903926130784016443373351028010143127605805580288, 730729164308903926130784016443373351028010143127605805580288, 1445933132700670466273593, 1⟩,
  ⟨730729350800897354465989087988169060123872300283566086946816, 730729350800897354465989087988169060123872300283566086946816, 1445933132982145459761464, 1⟩,
  ⟨730729354532111034571784238162176438048542849465161869164544, 730729354532111034571784238162176438048542849465161869164544, 1445933132982141231902772, 1⟩,
  ⟨730742913742163516108727329650136228643290613109051392786432, 730742913742163516108727329650136228643290613109051392786432, 1441377291880568130973745, 1⟩,
  ⟨730753390336109598549763371650510613326633679889613799292928, 730753390336109598549763371650510613326633679889613799292928, 1445933133545091202101557, 1⟩,
  ⟨730754407458720010275165017252839855962167753652467769802752, 730754407458720010275165017252839855962167753652467769802752, 1445933133545091202101557, 1⟩,
  ⟨730767433670817370330461063202570633590228512935006330421248, 730767433670817370330461063202570633590228512935006330421248, 1441377291880568130973745, 1⟩,
  ⟨730777910264763452771497105202945018273571579715568736927744, 730777910264763452771497105202945018273571579715568736927744, 1445933133545091202101557, 1⟩,
  ⟨730791953599471224552194796755005038537166412760961268056064, 730791953599471224552194796755005038537166412760961268056064, 1441377291880568130973745, 1⟩,
  ⟨730816473528125078773928530307439443484104312586916205690880, 730816473528125078773928530307439443484104312586916205690880, 1441377291880568130973745, 1⟩,
  ⟨730825804847781023981673725447767759106681494762908106620928, 730825804847781023981673725447767759106681494762908106620928, 1445933133545091101438513, 1⟩,
  ⟨730840993456778932995662263859873848431042212412871143325696, 730840993456778932995662263859873848431042212412871143325696, 1441377291880568130973745, 1⟩,
  ⟨730865513385432787217395997412308253377980112238826080960512, 730865513385432787217395997412308253377980112238826080960512, 1441377291880568130973745, 1⟩,
  ⟨730875127951413555340781255017775573579787918832824473354240, 730875127951413555340781255017775573579787918832824473354240, 1445933132700670466273593, 1⟩,
  ⟨730875807383063727554915287056002715721735794600680647294976, 730875807383063727554915287056002715721735794600680647294976, 1445933132982141148017209, 1⟩,
  ⟨730876185648917501539208576533711119350106941949141420343296, 730876185648917501539208576533711119350106941949141420343296, 1445933132982141148017203, 1⟩,
  ⟨730876240854218848439404505841498305542265443412681366175744, 730876240854218848439404505841498305542265443412681366175744, 1445933132982141265457203, 1⟩,
  ⟨730876468885011812993532318571424330100323585229556384006144, 730876468885011812993532318571424330100323585229556384006144, 1445933133263616191836209, 1⟩,
  ⟨730876567262171669279094542441677366963462853294215833583616, 730876567262171669279094542441677366963462853294215833583616, 1445933133263616141504564, 1⟩,
  ⟨730876660427954899944337875428154821063659858316419533897728, 730876660427954899944337875428154821063659858316419533897728, 1445933133545091134992441, 1⟩,
  ⟨730876762579611841187797343274706203768261517167824625205248, 730876762579611841187797343274706203768261517167824625205248, 1445933133263616158282292, 1⟩,
  ⟨730876952476904084504006214234087573093063110122107731705856, 730876952476904084504006214234087573093063110122107731705856, 1445933132982141198348593, 1⟩,
  ⟨730877144583079073931979307033087339608314749889421416333312, 730877144583079073931979307033087339608314749889421416333312, 1445933133263616225391158, 1⟩,
  ⟨730877145909568788523669244328182552758553327624091659665408, 730877145909568788523669244328182552758553327624091659665408, 1445933132982141198348593, 1⟩,
  ⟨730939073171394349882597198069611468218793811716690893864960, 730939073171394349882597198069611468218793811716690893864960, 1441377291880568130973745, 1⟩,
  ⟨730948401487664430375336896301367452609409388499741418979328, 730948401487664430375336896301367452609409388499741418979328, 1445933132982141181571385, 1⟩,
  ⟨730948401494140722886206578976031415945814381219608673648640, 730948401494140722886206578976031415945814381219608673648640, 1445933133263616158282035, 1⟩]
def tldPart_6_2 : List (TldRow) := [
  ⟨730948403372141946980344550355812655619138628874149077975040, 730948403372141946980344550355812655619138628874149077975040, 1445933132700670483051064, 1⟩,
  ⟨730948408222880546199386518052564341304843724973195923554304, 730948408222880546199386518052564341304843724973195923554304, 1445933061206022187463217, 1⟩,
  ⟨730948408222882763065993087367922826643203420755265572569088, 730948408222882763065993087367922826643203420755265572569088, 1445933133545091185324595, 1445933204758260293120308⟩,
  ⟨730948408222882808544584638062077677425801885601084855025664, 730948408222882808544584638062077677425801885601084855025664, 1445933133263620436471861, 1⟩,
  ⟨730948408222882808544724780496071730935824904502209666875392, 730948408222882808544724780496071730935824904502209666875392, 1445933133263620436472117, 1⟩,
  ⟨730950322741179324647040593910356420617159952697264101654528, 730950322741179324647040593910356420617159952697264101654528, 1445933132982145459761206, 1⟩,
  ⟨730950375326008235812927590878936701749022999917716997931008, 730950375326008235812927590878936701749022999917716997931008, 1445933133263620436472113, 1⟩,
  ⟨730988113028702058326064665174480278112669611368600769134592, 730988113028702058326064665174480278112669611368600769134592, 1441377291880568130973745, 1⟩,
  ⟨731022057281130050944881696676931013415570932195470912520192, 731022057281130050944881696676931013415570932195470912520192, 1445933133545091101438257, 1⟩,
  ⟨731022689959342844943431375379280356963625009170045036658688, 731022689959342844943431375379280356963625009170045036658688, 1445933132982141282234935, 1⟩,
  ⟨731023206820858388654579301030625131909831193510244792664064, 731023206820858388654579301030625131909831193510244792664064, 1445933133545091118215733, 1⟩,
  ⟨731023686851071169989642785030908437572988999501288533131264, 731023686851071169989642785030908437572988999501288533131264, 1445933133263620436472116, 1⟩,
  ⟨731037152886009766769532132279349088006545411020510644404224, 731037152886009766769532132279349088006545411020510644404224, 1441377291880568130973745, 1⟩,
  ⟨731048167697709740345701582898606730853802670707951339044864, 731048167697709740345701582898606730853802670707951339044864, 1445933133545091118215475, 1⟩,
  ⟨731061672814663620991265865831783492953483310846465582039040, 731061672814663620991265865831783492953483310846465582039040, 1441377291880568130973745, 1⟩,
  ⟨731135232600625183656467066489086707794297010324330394943488, 731135232600625183656467066489086707794297010324330394943488, 1441377291880568130973745, 1⟩,
  ⟨736799336119665508876959517101434250536951870119920988585984, 736799336119665508876959517101434250536951870119920988585984, 1441377291880568130973745, 1⟩,
  ⟨736833188114802644982529836996279920624487575166049356611584, 736833188114802644982529836996279920624487575166049356611584, 1445933133545091218878776, 1⟩,
  ⟨736834870860019336674862701273126298331147029633316620861440, 736834870860019336674862701273126298331147029633316620861440, 1445933133263616225390897, 1⟩,
  ⟨736859048982018087715660373264801307166248920964380531621888, 736859048982018087715660373264801307166248920964380531621888, 1445933133545091202101816, 1445933134389520326537529⟩,
  ⟨736946455691588634207361918416040680218579269075650614394880, 736946455691588634207361918416040680218579269075650614394880, 1441377291880568130973745, 1⟩,
  ⟨737044535406204051094296852625778300006330868379470364934144, 737044535406204051094296852625778300006330868379470364934144, 1441377291880568130973745, 1⟩,
  ⟨737128189397299004407284611318386018226826311054050266710016, 737128189397299004407284611318386018226826311054050266710016, 1445933133545091118215220, 1⟩,
  ⟨737128196491459070737462940483499373036536695810556231155712, 737128196491459070737462940483499373036536695810556231155712, 1445933132982141198348593, 1⟩,
  ⟨737128726879980370863452914315582370117105922859995326578688, 737128726879980370863452914315582370117105922859995326578688, 1445933132700670466274096, 1⟩,
  ⟨737152959465720312731025705677949184381071894172364854788096, 737152959465720312731025705677949184381071894172364854788096, 1445933132982141265457462, 1⟩,
  ⟨737178149861173295779134971007207967588277627196685747748864, 737178149861173295779134971007207967588277627196685747748864, 1445933133545091168547633, 1⟩,
  ⟨737240694835434884868166721045253539581834066987109866012672, 737240694835434884868166721045253539581834066987109866012672, 1441377291880568130973745, 1⟩,
  ⟨737387814407358010198569122359859969263461465942839491821568, 737387814407358010198569122359859969263461465942839491821568, 1441377291880568130973745, 1⟩,
  ⟨737412334336011864420302855912294374210399365768794429456384, 737412334336011864420302855912294374210399365768794429456384, 1441377291880568130973745, 1⟩,
  ⟨743076437855052189640795306524641916953054225564385023098880, 743076437855052189640795306524641916953054225564385023098880, 1441377291880568130973745, 1⟩,
  ⟨743085956633356074494609866881149861095770717947562712629248, 743085956633356074494609866881149861095770717947562712629248, 1445933132982141164794417, 1⟩,
  ⟨743087010053904300827677784994355341339431548491966942543872, 743087010053904300827677784994355341339431548491966942543872, 1445933133263620419694896, 1⟩,
  ⟨743087012470322830436611446885959784509866816262617836814336, 743087012470322830436611446885959784509866816262617836814336, 1445933133545091218879032, 1⟩,
  ⟨743125477712359898084262773629510726846930025216294898368512, 743125477712359898084262773629510726846930025216294898368512, 1441377291880568130973745, 1⟩,
  ⟨743174517569667606527730240734379536740805824868204773638144, 743174517569667606527730240734379536740805824868204773638144, 1441377291880568130973745, 1⟩,
  ⟨743184419469793277181291023020692338629287861857852980199424, 743184419469793277181291023020692338629287861857852980199424, 1445933132982141181571889, 1⟩,
  ⟨743185097048912460600892006227775350758351818759945471393792, 743185097048912460600892006227775350758351818759945471393792, 1445933132700670466273334, 1⟩,
  ⟨743185476054234726323613725163275231284579040013458033606656, 743185476054234726323613725163275231284579040013458033606656, 1445933133263620419695157, 1⟩,
  ⟨743185479781029669128474131436543525563052772072817852153856, 743185479781029669128474131436543525563052772072817852153856, 1445933132982141215126066, 1⟩,
  ⟨743185628162338884221953338750326376482387060726840604753920, 743185628162338884221953338750326376482387060726840604753920, 1445933132982141215126321, 1⟩,
  ⟨743223557426975314971197707839248346634681624520114648907776, 743223557426975314971197707839248346634681624520114648907776, 1441377291880568130973745, 1⟩,
  ⟨743272597284283023414665174944117156528557424172024524177408, 743272597284283023414665174944117156528557424172024524177408, 1441377291880568130973745, 1⟩,
  ⟨743281927846076152786316497082019855517330486909323498749952, 743281927846076152786316497082019855517330486909323498749952, 1445933132700670483050807, 1⟩,
  ⟨743282213332226451791585991608120897104676212697138515148800, 743282213332226451791585991608120897104676212697138515148800, 1445933132982145459761717, 1⟩,
  ⟨743282462724327347574190856803104436643926969805123581116416, 743282462724327347574190856803104436643926969805123581116416, 1445933133545091151769654, 1⟩,
  ⟨743282885294729781656870064178310873053114766999713153548288, 743282885294729781656870064178310873053114766999713153548288, 1445933133545091118215730, 1⟩,
  ⟨743282982179203329849005300893072916374765998777683731808256, 743282982179203329849005300893072916374765998777683731808256, 1445933132982141164794161, 1⟩,
  ⟨743283133191126476400566388579928814904194803003489536442368, 743283133191126476400566388579928814904194803003489536442368, 1445933133263616242167861, 1⟩,
  ⟨743283324753069084636673683373307208692842755345879809392640, 743283324753069084636673683373307208692842755345879809392640, 1445933133263620419695157, 1⟩]
def tldPart_6_3 : List (TldRow) := [
  ⟨743283555005972526918564554120499824806208864899780701061120, 743283555005972526918564554120499824806208864899780701061120, 1445933133263620402917431, 1⟩,
  ⟨743283648387991655191815890397276565386554627955582125998080, 743283648387991655191815890397276565386554627955582125998080, 1445933133545091202101816, 1⟩,
  ⟨743283651544001679174025913146697765047567445252748894797824, 743283651544001679174025913146697765047567445252748894797824, 1445933132982141164794161, 1⟩,
  ⟨743283655638501277990425267605757020492034688468663471702016, 743283655638501277990425267605757020492034688468663471702016, 1445933133263616208613938, 1445933134108041189077299⟩,
  ⟨743283655639143236426085443767149446795968640405391171125248, 743283655639143236426085443767149446795968640405391171125248, 1445933133263616208613938, 1445933203913835312656691⟩,
  ⟨743283935730905567545976832587344156069526556469167535423488, 743283935730905567545976832587344156069526556469167535423488, 1445933133263616242168376, 1⟩,
  ⟨743283940968927435739932891429350596524684898916029769449472, 743283940968927435739932891429350596524684898916029769449472, 1445933133545091202101557, 1⟩,
  ⟨743355484277808085256113524821159420494598021469115175141376, 743355484277808085256113524821159420494598021469115175141376, 1445933132982141231903032, 1⟩,
  ⟨743395196927552294523333842706289181263246923301799212351488, 743395196927552294523333842706289181263246923301799212351488, 1441377291880568130973745, 1⟩,
  ⟨743429335128555069139622634428735642180486367569197471367168, 743429335128555069139622634428735642180486367569197471367168, 1445933132982141181571889, 1⟩,
  ⟨743430101403314073637100545613600547568183580756653243367424, 743430101403314073637100545613600547568183580756653243367424, 1445933133545091101438009, 1445933204758264504201776⟩,
  ⟨743430105512375135730507072118677293922159122565047659790336, 743430105512375135730507072118677293922159122565047659790336, 1445933133545095379628596, 1⟩,
  ⟨743430865237463761267116527349145460663979815210181812289536, 743430865237463761267116527349145460663979815210181812289536, 1445933132982141181571122, 1⟩,
  ⟨743430866895394644049755292063120074783657951496199007633408, 743430866895394644049755292063120074783657951496199007633408, 1445933132982141148017209, 1⟩,
  ⟨743430868978907952834227997950578632417664345529369122308096, 743430868978907952834227997950578632417664345529369122308096, 1445933132982141181571122, 1⟩,
  ⟨743431342796853881943476384458945261735560630998142252220416, 743431342796853881943476384458945261735560630998142252220416, 1445933132700670466273334, 1⟩,
  ⟨743566836428129274075469977573330015891812222083483775795200, 743566836428129274075469977573330015891812222083483775795200, 1441377291880568130973745, 1⟩,
  ⟨743576550876711474606067212600312985135780925765960083701760, 743576550876711474606067212600312985135780925765960083701760, 1445933133545091134992434, 1445933204758260309897271⟩,
  ⟨749363921891998738275304703458181638430732310982147870556160, 749363921891998738275304703458181638430732310982147870556160, 1445933132982141265457207, 1⟩,
  ⟨749363924859500473891354574669708845390175437875816158986240, 749363924859500473891354574669708845390175437875816158986240, 1445933133545091218878776, 1⟩,
  ⟨749363927484354827651213186211242386805300113967936312442880, 749363927484354827651213186211242386805300113967936312442880, 1445933133263616191836727, 1⟩,
  ⟨749364114034157496531780456778422910807744622127943363067904, 749364114034157496531780456778422910807744622127943363067904, 1445933132982141148016691, 1⟩,
  ⟨749364114185328472339613131623499887226995248851354554204160, 749364114185328472339613131623499887226995248851354554204160, 1445933133263620436472117, 1⟩,
  ⟨749364499545302875750150134139462676037288475770870160162816, 749364499545302875750150134139462676037288475770870160162816, 1445933133545091168546867, 1445933134389520326537529⟩,
  ⟨749364687375403814895671656411168046074708101071656242380800, 749364687375403814895671656411168046074708101071656242380800, 1445933132982141148017203, 1⟩,
  ⟨749364687375982987549222695224776870213967051668328059764736, 749364687375982987549222695224776870213967051668328059764736, 1445933133263620436472116, 1⟩,
  ⟨749460953612598729556482630389232999455108532613697138327552, 749460953612598729556482630389232999455108532613697138327552, 1445933133545091101438258, 1⟩,
  ⟨749460953612598738216117812300621118538461500175345847894016, 749460953612598738216117812300621118538461500175345847894016, 1445933133545091101438520, 1⟩,
  ⟨749461043022927526190344415561215740618294128035834886094848, 749461043022927526190344415561215740618294128035834886094848, 1445933132982141181571385, 1⟩,
  ⟨749461043795439612344372260782823604442527865554360323801088, 749461043795439612344372260782823604442527865554360323801088, 1445933133263620436472370, 1⟩,
  ⟨749461049020972461107030810338745221200609764052112863395840, 749461049020972461107030810338745221200609764052112863395840, 1445933132982141215126320, 1⟩,
  ⟨749461197402184699096930769826506892589305797432182455664640, 749461197402184699096930769826506892589305797432182455664640, 1445933132982141148017203, 1⟩,
  ⟨749461234970714572649336353254074741566900678329171997360128, 749461234970714572649336353254074741566900678329171997360128, 1445933132982145426207029, 1⟩,
  ⟨749461713135420978788621642624606976678541490598002288492544, 749461713135420978788621642624606976678541490598002288492544, 1445933133545091151769654, 1⟩,
  ⟨749461718959505003552269771666291035052929323926893472251904, 749461718959505003552269771666291035052929323926893472251904, 1445933133263616175059255, 1⟩,
  ⟨749476139233708141513299763710021608103846080138623745785856, 749476139233708141513299763710021608103846080138623745785856, 1441377291880568130973745, 1⟩,
  ⟨749535853979953715347764167239800200956312266747766194044928, 749535853979953715347764167239800200956312266747766194044928, 1445933132982141248680248, 1⟩,
  ⟨749559414053657527340145528048698598561911206418257752883200, 749559414053657527340145528048698598561911206418257752883200, 1445933132982141148016691, 1⟩,
  ⟨749559986868763256264911677128117194051012798285834916724736, 749559986868763256264911677128117194051012798285834916724736, 1445933132982141164794169, 1⟩,
  ⟨749560083926181701754391627209765974844287347900826177765376, 749560083926181701754391627209765974844287347900826177765376, 1445933132982141248680503, 1⟩,
  ⟨749560234926513157164402178003136481320297158447953570955264, 749560234926513157164402178003136481320297158447953570955264, 1445933133263616158282293, 1⟩,
  ⟨749560272503863689066672975863122236017709191068126558552064, 749560272503863689066672975863122236017709191068126558552064, 1445933133263616208613680, 1⟩,
  ⟨749560272715099491992228031077611516032510914671745402142720, 749560272715099491992228031077611516032510914671745402142720, 1445933133263616242167861, 1⟩,
  ⟨749560276230664319306621298084897393724841901288026888208384, 749560276230664319306621298084897393724841901288026888208384, 1445933133545091202101557, 1⟩,
  ⟨749657452612386836988854285642671329059132972211017093218304, 749657452612386836988854285642671329059132972211017093218304, 1445933132982141282234672, 1⟩,
  ⟨749707206485511360699104516909181459209896158325956809850880, 749707206485511360699104516909181459209896158325956809850880, 1445933133545091118215473, 1⟩,
  ⟨749707487862523873480824003642331126183476286576413902897152, 749707487862523873480824003642331126183476286576413902897152, 1445933133545091185324595, 1⟩]
def tldPart_6 : List (TldRow) := tldPart_6_0 ++ tldPart_6_1 ++ tldPart_6_2 ++ tldPart_6_3
def tldPart_7_0 : List (TldRow) := [
  ⟨749707777655774348735111904339834636343644936503767959863296, 749707777655774348735111904339834636343644936503767959863296, 1445933132982141282234931, 1⟩,
  ⟨749707777823847037028165739933258392106017483764200202305536, 749707777823847037028165739933258392106017483764200202305536, 1445933132982141148017203, 1⟩,
  ⟨749707778176068931624913343220346436790641691501279945162752, 749707778176068931624913343220346436790641691501279945162752, 1445933132982141282234681, 1⟩,
  ⟨749708216527178019557287405887945683050840342944439425040384, 749708216527178019557287405887945683050840342944439425040384, 1445933133545091235656246, 1⟩,
  ⟨749794898306208246395838299891668872414038777876037935038464, 749794898306208246395838299891668872414038777876037935038464, 1441377291880568130973745, 1⟩,
  ⟨749828900551021208304883125716333769899050318650311383711744, 749828900551021208304883125716333769899050318650311383711744, 1445933132982141198348857, 1⟩,
  ⟨749829187893935120659044067906401360582022247163896793137152, 749829187893935120659044067906401360582022247163896793137152, 1445933132982141198348851, 1⟩,
  ⟨755665837839624461299493127173190571046372555112175898722304, 755665837839624461299493127173190571046372555112175898722304, 1445933133263616208613428, 1⟩,
  ⟨755739681776580360388163296663713701917796068175069447192576, 755739681776580360388163296663713701917796068175069447192576, 1445933133263616175059254, 1⟩,
  ⟨755763339281090475150324100402957915661441040328534255468544, 755763339281090475150324100402957915661441040328534255468544, 1445933133545091202101303, 1445933205039735202721846⟩,
  ⟨755836805893362702361008494496400150488601892366372179017728, 755836805893362702361008494496400150488601892366372179017728, 1445933133545091134993200, 1⟩,
  ⟨755837336661899837928237967426344147736399513892417605468160, 755837336661899837928237967426344147736399513892417605468160, 1445933133263616158281783, 1⟩,
  ⟨755953727450428714229030371874080116284709444357301320286208, 755953727450428714229030371874080116284709444357301320286208, 1445933133263616225391160, 1⟩,
  ⟨755953727450714364300731674655636144032341682754516416462848, 755953727450714364300731674655636144032341682754516416462848, 1445933133545091118215481, 1⟩,
  ⟨755953727450794429969390381434898125538275630151680625999872, 755953727450794429969390381434898125538275630151680625999872, 1445933132982141265457460, 1⟩,
  ⟨755953727452267036961332521244766042444413852462236586475520, 755953727452267036961332521244766042444413852462236586475520, 1441377291880568130973745, 1⟩,
  ⟨755953727453346370710926360715566607704390274664465703108608, 755953727453346370710926360715566607704390274664465703108608, 1445933133263616158282545, 1⟩,
  ⟨755953727453631842721958878834140611920492155001846125035520, 755953727453631842721958878834140611920492155001846125035520, 1445933132982141148016691, 1⟩,
  ⟨755953727453643255129679312878423250216824621468776749072384, 755953727453643255129679312878423250216824621468776749072384, 1445933132982141148016690, 1⟩,
  ⟨755953727453647473978703600262217967152141484881566878400512, 755953727453647473978703600262217967152141484881566878400512, 1441377291880568130973745, 1⟩,
  ⟨755953727453665739700184361928203162694474357695891678167040, 755953727453665739700184361928203162694474357695891678167040, 1441377291880568130973745, 1⟩,
  ⟨755953727453706009166781335106271024948833773710985392029696, 755953727453706009166781335106271024948833773710985392029696, 1445933133545091218878774, 1445933204195314534003255⟩,
  ⟨755953727453711880186388808599117067707993401125734551912448, 755953727453711880186388808599117067707993401125734551912448, 1445933133263616225391160, 1⟩,
  ⟨755953727454818950258662773293323124523424476898415293235200, 755953727454818950258662773293323124523424476898415293235200, 1445933133263616225391160, 1⟩,
  ⟨755953727454836060489479029050092168517396010219234465415168, 755953727454836060489479029050092168517396010219234465415168, 1441377291880568130973745, 1⟩,
  ⟨755953727454836060507458050500047815653704671059364024418304, 755953727454836060507458050500047815653704671059364024418304, 1441377291880568130973745, 1⟩,
  ⟨755953727454836389336996661518919385760239675873947969126400, 755953727454836389336996661518919385760239675873947969126400, 1445933132982145442984247, 1⟩,
  ⟨755953727455104383074015092321169017605387129307565605781504, 755953727455104383074015092321169017605387129307565605781504, 1441377291880568130973745, 1⟩,
  ⟨755953727455121510045727565927730355061586968927206790660096, 755953727455121510045727565927730355061586968927206790660096, 1445933132982141215126072, 1⟩,
  ⟨755953727456291848013110545185776442384890317507916835323904, 755953727456291848013110545185776442384890317507916835323904, 1441377291880568130973745, 1⟩,
  ⟨755953727456297897073143829395886119456492499988353728380928, 755953727456297897073143829395886119456492499988353728380928, 1445933132700670483050807, 1⟩,
  ⟨755953727456297897160662324287780121272979225810210266284032, 755953727456297897160662324287780121272979225810210266284032, 1445933132982141148016952, 1⟩,
  ⟨755953727456651937780354457170004496393475138140448699187200, 755953727456651937780354457170004496393475138140448699187200, 1445933133545091202101298, 1⟩,
  ⟨755953727456657763327699855388039724793500769313153829830656, 755953727456657763327699855388039724793500769313153829830656, 1445933133545091151769911, 1⟩,
  ⟨755953727458039161821688286244364863668664353640427244486656, 755953727458039161821688286244364863668664353640427244486656, 1445933132982141164793909, 1⟩,
  ⟨755953727458101932757128856378534795343409481089160381988864, 755953727458101932757128856378534795343409481089160381988864, 1445933132982141148016691, 1⟩,
  ⟨755953727460653498587436812123521796909804797985223786627072, 755953727460653498587436812123521796909804797985223786627072, 1445933132982141198348852, 1⟩,
  ⟨755953727460653499521779029893204957439003376545646686240768, 755953727460653499521779029893204957439003376545646686240768, 1441377291880568130973745, 1⟩,
  ⟨755953727460653499713424481762480028592453407817971798114304, 755953727460653499713424481762480028592453407817971798114304, 1445933133545095413182513, 1⟩,
  ⟨755953727460653499887655699437548692797487376061432546197504, 755953727460653499887655699437548692797487376061432546197504, 1445933132700670449496627, 1⟩,
  ⟨755953727460653499893778931596767805583328660591680545619968, 755953727460653499893778931596767805583328660591680545619968, 1445933132700670449496627, 1⟩,
  ⟨755953727461069161891288283661171875243731564860789481275392, 755953727461069161891288283661171875243731564860789481275392, 1445933133545091118215222, 1⟩,
  ⟨755953727462114995948432005898071919172429518857506079637504, 755953727462114995948432005898071919172429518857506079637504, 1441377291880568130973745, 1⟩,
  ⟨755953727462115000270907319323170513876259680164289915650048, 755953727462115000270907319323170513876259680164289915650048, 1441377291880568130973745, 1⟩,
  ⟨755953727462115000658488935246119423761043358029073908498432, 755953727462115000658488935246119423761043358029073908498432, 1441377291880568130973745, 1⟩,
  ⟨755953727462411891154225842151814798665950641487846582517760, 755953727462411891154225842151814798665950641487846582517760, 1445933133263616225391160, 1⟩,
  ⟨755953727462417996331699668196856478972781453128145100079104, 755953727462417996331699668196856478972781453128145100079104, 1445933133263616158282295, 1⟩,
  ⟨755953727462452211162136450060895375258040219930374042550272, 755953727462452211162136450060895375258040219930374042550272, 1445933133545091151769654, 1⟩,
  ⟨755953727522059889903079097576443592323968172390037466382336, 755953727522059889903079097576443592323968172390037466382336, 1445933133263616124727860, 1⟩,
  ⟨755953727522327944441823414329688988475562794735273838116864, 755953727522327944441823414329688988475562794735273838116864, 1445933133545091118215729, 1⟩]
def tldPart_7_1 : List (TldRow) := [
  ⟨755953727523503779545534010360030364723555241078911995478016, 755953727523503779545534010360030364723555241078911995478016, 1445933132982141181571125, 1⟩,
  ⟨755953727523509510472404245874497552905322824668172385255424, 755953727523509510472404245874497552905322824668172385255424, 1445933133263616225391160, 1⟩,
  ⟨755953727523789446166258631921049140109511517529138299666432, 755953727523789446166258631921049140109511517529138299666432, 1445933133545091118215481, 1⟩,
  ⟨755953727523789452177438378248709162264757409027207630684160, 755953727523789452177438378248709162264757409027207630684160, 1445933203913835362988082, 1⟩,
  ⟨755953727523811059772879543588333822473664470972506166001664, 755953727523811059772879543588333822473664470972506166001664, 1445933132982141164794417, 1⟩,
  ⟨755953727523840653381634210777886658176166922640857812172800, 755953727523840653381634210777886658176166922640857812172800, 1441377291880568130973745, 1⟩,
  ⟨755953727523920909393702865855746787669098922532704486424576, 755953727523920909393702865855746787669098922532704486424576, 1445933132982141215126066, 1⟩,
  ⟨755953727523920914704574328137471485144744668383528641101824, 755953727523920914704574328137471485144744668383528641101824, 1445933132982145459761206, 1⟩,
  ⟨755953727523920914879458197086901296710952755690493016276992, 755953727523920914879458197086901296710952755690493016276992, 1445933132982141181571889, 1⟩,
  ⟨755953727524965279528820627148429345783433247521457213276160, 755953727524965279528820627148429345783433247521457213276160, 1445933132982141164794422, 1⟩,
  ⟨755953727524965280311401771593710644626569154465809538482176, 755953727524965280311401771593710644626569154465809538482176, 1441377291880568130973745, 1⟩,
  ⟨755953727526426777069423815232577701857956941521341086957568, 755953727526426777069423815232577701857956941521341086957568, 1441377291880568130973745, 1⟩,
  ⟨755953727526712455365322852027038200398434022869296996155392, 755953727526712455365322852027038200398434022869296996155392, 1445933133263620436472116, 1⟩,
  ⟨755953727526729827892117212150941938332643898028027447083008, 755953727526729827892117212150941938332643898028027447083008, 1445933133263616242168372, 1⟩,
  ⟨755953727526803999908966391965024794445837313411689413083136, 755953727526803999908966391965024794445837313411689413083136, 1445933133263616191836215, 1445933203913835329433649⟩,
  ⟨755953727528174151942857167801230351784816717888528746283008, 755953727528174151942857167801230351784816717888528746283008, 1445933133545091134992949, 1⟩,
  ⟨755953727528202299770438932713015067605021709388053783511040, 755953727528202299770438932713015067605021709388053783511040, 1445933133263616225391160, 1⟩,
  ⟨755953727528208338811020573699858208224338435032457414705152, 755953727528208338811020573699858208224338435032457414705152, 1445933132982141148016691, 1⟩,
  ⟨755953727528208339160205594615932014585336039373010542526464, 755953727528208339160205594615932014585336039373010542526464, 1445933132982141148016952, 1⟩,
  ⟨755953727528208344475438762796919157453086772177254771326976, 755953727528208344475438762796919157453086772177254771326976, 1441377291880568130973745, 1⟩,
  ⟨755953727528208345085565046686161822442917443302415174467584, 755953727528208345085565046686161822442917443302415174467584, 1441377291880568130973745, 1⟩,
  ⟨755953727528214048237342181906380649533545764746355116343296, 755953727528214048237342181906380649533545764746355116343296, 1445933133263616191836217, 1⟩,
  ⟨755953727528225599675928074140073012894688940338825467527168, 755953727528225599675928074140073012894688940338825467527168, 1445933132982145442984496, 1⟩,
  ⟨755953727528247995130227002515110660351688800923372696371200, 755953727528247995130227002515110660351688800923372696371200, 1441377291880568130973745, 1⟩,
  ⟨755953727528305079460366975073482716465782912614167115464704, 755953727528305079460366975073482716465782912614167115464704, 1441377291880568130973745, 1⟩,
  ⟨755953727528305575724484699443313527014924329895462231343104, 755953727528305575724484699443313527014924329895462231343104, 1445933133545091168547121, 1⟩,
  ⟨755953727529356008159713134032407174413251973790953331752960, 755953727529356008159713134032407174413251973790953331752960, 1445933133545091101438262, 1⟩,
  ⟨755953727529635458274842805062983440582134662098436768137216, 755953727529635458274842805062983440582134662098436768137216, 1445933133545091118215481, 1⟩,
  ⟨755953727529646697869078842156222074564087680776363577442304, 755953727529646697869078842156222074564087680776363577442304, 1441377291880568130973745, 1⟩,
  ⟨755953727529679879900417595113369309097576862674057317842944, 755953727529679879900417595113369309097576862674057317842944, 1445933133545091235656496, 1⟩,
  ⟨755953727530817018674712016208922482795922387270277944836096, 755953727530817018674712016208922482795922387270277944836096, 1441377291880568130973745, 1⟩,
  ⟨755953727530817018676352530728066727523317994139835923693568, 755953727530817018676352530728066727523317994139835923693568, 1441377291880568130973745, 1⟩,
  ⟨755953727530817018676352531871725253416723707302642846793728, 755953727530817018676352531871725253416723707302642846793728, 1441377291880568130973745, 1⟩,
  ⟨755953727531217044371808458334006589806384974703716265361408, 755953727531217044371808458334006589806384974703716265361408, 1445933132982145459761202, 1⟩,
  ⟨755953727532272806093442551860154723023449716620765767401472, 755953727532272806093442551860154723023449716620765767401472, 1445933132982141181571129, 1⟩,
  ⟨755953727532615702247831761663592628942712989100457041330176, 755953727532615702247831761663592628942712989100457041330176, 1445933133263616191836976, 1⟩,
  ⟨755953727532625652215243788679608183731392083252375376101376, 755953727532625652215243788679608183731392083252375376101376, 1445933132982141148016952, 1⟩,
  ⟨755953727533734289525601187580611027096499556066016498810880, 755953727533734289525601187580611027096499556066016498810880, 1445933133263616225391160, 1⟩,
  ⟨755953727533734290223180039768534877196417501301141332295680, 755953727533734290223180039768534877196417501301141332295680, 1441377291880568130973745, 1⟩,
  ⟨755953727533763320550766424923327709918159745567765492137984, 755953727533763320550766424923327709918159745567765492137984, 1441377291880568130973745, 1⟩,
  ⟨755953727534071472508912346187532274611055467044620038307840, 755953727534071472508912346187532274611055467044620038307840, 1445933203913835362988082, 1⟩,
  ⟨755953727534071472680846384417392109148000250977514501963776, 755953727534071472680846384417392109148000250977514501963776, 1445933133263620436472120, 1445933204476789544267830⟩,
  ⟨755953727534128584456040882154597845688487272498779834548224, 755953727534128584456040882154597845688487272498779834548224, 1445933133545091118215730, 1⟩,
  ⟨755953727535481621453355446726596038156123203419114620059648, 755953727535481621453355446726596038156123203419114620059648, 1445933133263616175058999, 1⟩,
  ⟨755953727535555838244216858591780391368680030943597907935232, 755953727535555838244216858591780391368680030943597907935232, 1441377291880568130973745, 1⟩,
  ⟨755953727535555838419807876834967778179272943606631426424832, 755953727535555838419807876834967778179272943606631426424832, 1441377291880568130973745, 1⟩,
  ⟨755953727535555899571270152619575102409179249208765548855296, 755953727535555899571270152619575102409179249208765548855296, 1445933133263620436472117, 1445933203913835362988598⟩,
  ⟨755953727535555904885867420204297484937263852127570192498688, 755953727535555904885867420204297484937263852127570192498688, 1445933132982141231903031, 1⟩,
  ⟨755953727536657292625017574452735088078294199277967734996992, 755953727536657292625017574452735088078294199277967734996992, 1441377291880568130973745, 1⟩,
  ⟨755953727536965600339748856497455821369998893128483243819008, 755953727536965600339748856497455821369998893128483243819008, 1441377291880568130973745, 1⟩]
def tldPart_7_2 : List (TldRow) := [
  ⟨755953727538427098405480278413494589105452849845641756540928, 755953727538427098405480278413494589105452849845641756540928, 1441377291880568130973745, 1⟩,
  ⟨755953727538427101874289239739833342248990798705373745250304, 755953727538427101874289239739833342248990798705373745250304, 1445933133263620402917685, 1⟩,
  ⟨755953727538427101874289244947877534319352609641754330660864, 755953727538427101874289244947877534319352609641754330660864, 1441377291880568130973745, 1⟩,
  ⟨755953727538427101875653012025135237795488055455285908602880, 755953727538427101875653012025135237795488055455285908602880, 1445933133545091168546867, 1⟩,
  ⟨755953727538427101889955769194938101936152056036840135720960, 755953727538427101889955769194938101936152056036840135720960, 1445933133826566162034992, 1445933204758264504201527⟩,
  ⟨755953727538427101889958200038238604337653635737652863959040, 755953727538427101889958200038238604337653635737652863959040, 1441377291880568130973745, 1⟩,
  ⟨755953727538427101890220281278551415031338501019326163714048, 755953727538427101890220281278551415031338501019326163714048, 1445933132982141164794168, 1⟩,
  ⟨755953727538427101892260640074218995990268071459790451113984, 755953727538427101892260640074218995990268071459790451113984, 1441377291880568130973745, 1⟩,
  ⟨755953727538427101892611557705080239633935551267256250925056, 755953727538427101892611557705080239633935551267256250925056, 1441377291880568130973745, 1⟩,
  ⟨755953727538427101898118330830491271209050183314154794778624, 755953727538427101898118330830491271209050183314154794778624, 1441377291880568130973745, 1⟩,
  ⟨755953727538427101963450110274547571115220917961276329558016, 755953727538427101963450110274547571115220917961276329558016, 1445933133263620436472371, 1445933134389516165787705⟩,
  ⟨755953727538427101979372924963303688642875073434167696949248, 755953727538427101979372924963303688642875073434167696949248, 1441377291880568130973745, 1⟩,
  ⟨755953727538427101979372926082749654792907855145291374133248, 755953727538427101979372926082749654792907855145291374133248, 1441377291880568130973745, 1⟩,
  ⟨755953727538427102047492995576505046820628250217466111721472, 755953727538427102047492995576505046820628250217466111721472, 1441377291880568130973745, 1⟩,
  ⟨755953727538427102064111227753893791877996053902076153954304, 755953727538427102064111227753893791877996053902076153954304, 1445933133545091151769654, 1⟩,
  ⟨755953727538427102069292319251388583734590826540565545353216, 755953727538427102069292319251388583734590826540565545353216, 1441377291880568130973745, 1⟩,
  ⟨755953727538427102244196116109793464842895447134235453816832, 755953727538427102244196116109793464842895447134235453816832, 1441377291880568130973745, 1⟩,
  ⟨755953727538427102419367087917488996729442257682421858172928, 755953727538427102419367087917488996729442257682421858172928, 1441377291880568130973745, 1⟩,
  ⟨755953727538427102571533375704176559555823569371166450647040, 755953727538427102571533375704176559555823569371166450647040, 1445933133545095413182513, 1⟩,
  ⟨755953727538427103200307414774481571919247935449408099844096, 755953727538427103200307414774481571919247935449408099844096, 1441377291880568130973745, 1⟩,
  ⟨755953727538427103529426935290282390537024946554145630846976, 755953727538427103529426935290282390537024946554145630846976, 1445933133263620436471863, 1⟩,
  ⟨755953727538427103552839924026015787148219790536220516286464, 755953727538427103552839924026015787148219790536220516286464, 1441377291880568130973745, 1⟩,
  ⟨755953727538427103878215010340091258436759771760714175217664, 755953727538427103878215010340091258436759771760714175217664, 1441377291880568130973745, 1⟩,
  ⟨755953727538439006902599685898331094449588424656028621078528, 755953727538439006902599685898331094449588424656028621078528, 1441377291880568130973745, 1⟩,
  ⟨755953727538448845210368919129426157435105575002872918048768, 755953727538448845210368919129426157435105575002872918048768, 1445933133263616225391160, 1⟩,
  ⟨755953727538524557523938512609136101014693696868664398053376, 755953727538524557523938512609136101014693696868664398053376, 1445933133263616158281779, 1⟩,
  ⟨755953727539888603686525647879759858183340289373362928484352, 755953727539888603686525647879759858183340289373362928484352, 1445933132700670449496627, 1⟩,
  ⟨755953727539888603862116281832132484605733679507826330828800, 755953727539888603862116281832132484605733679507826330828800, 1445933133263620436472117, 1⟩,
  ⟨755953727539888605015879284835817596480935488209156843765760, 755953727539888605015879284835817596480935488209156843765760, 1445933133826566145258035, 1⟩,
  ⟨755953727539934320370242671469861922681678770925507310518272, 755953727539934320370242671469861922681678770925507310518272, 1441377291880568130973745, 1⟩,
  ⟨755953727539946135792741541265091314140928107398643379601408, 755953727539946135792741541265091314140928107398643379601408, 1445933132982141181571129, 1⟩,
  ⟨755953727539946135792894652696447345659134122352336370139136, 755953727539946135792894652696447345659134122352336370139136, 1445933132982141181571129, 1⟩,
  ⟨755953727539991701946970609709024613525857788621302924312576, 755953727539991701946970609709024613525857788621302924312576, 1445933133263616175058994, 1⟩,
  ⟨755953727541053261846433015049123348336116569030378899111936, 755953727541053261846433015049123348336116569030378899111936, 1441377291880568130973745, 1⟩,
  ⟨755953727541350106472935501858467658713744358382280042872832, 755953727541350106472935501858467658713744358382280042872832, 1441377291880568130973745, 1⟩,
  ⟨755953727541424742086399308201260564953607313008032890224640, 755953727541424742086399308201260564953607313008032890224640, 1445933134108041054859828, 1⟩,
  ⟨755953727542503299175362033226312642799549455178886769803264, 755953727542503299175362033226312642799549455178886769803264, 1445933132982141282234935, 1⟩,
  ⟨755953727542503299663326947390938399406028642236042385031168, 755953727542503299663326947390938399406028642236042385031168, 1441377291880568130973745, 1⟩,
  ⟨755953727542783459762655514642782454408171284796273497997312, 755953727542783459762655514642782454408171284796273497997312, 1445933133263620436472117, 1445933203913835362988598⟩,
  ⟨755953727542811608353286508984129422632992729893560333107200, 755953727542811608353286508984129422632992729893560333107200, 1441377291880568130973745, 1⟩,
  ⟨755953727542880495878581107280472039221173084460718342799360, 755953727542880495878581107280472039221173084460718342799360, 1445933133263616225391160, 1⟩,
  ⟨755953727543999099516828229609814593453646558511726543765504, 755953727543999099516828229609814593453646558511726543765504, 1441377291880568130973745, 1⟩,
  ⟨755953727544010675360745108560529949549951088990423168843776, 755953727544010675360745108560529949549951088990423168843776, 1445933132700670466273843, 1⟩,
  ⟨755953727544250473166576017620473209962023818696114432901120, 755953727544250473166576017620473209962023818696114432901120, 1445933132982145442984496, 1⟩,
  ⟨755953727544370135235667149986921089432197044166146765357056, 755953727544370135235667149986921089432197044166146765357056, 1441377291880568130973745, 1⟩,
  ⟨755953727544370139993835486642403624040564179884561666146304, 755953727544370139993835486642403624040564179884561666146304, 1441377291880568130973745, 1⟩,
  ⟨755953727545740655394235366036874369924138049958054994116608, 755953727545740655394235366036874369924138049958054994116608, 1445933132982141181571378, 1⟩,
  ⟨755953727545780729745907189762485801657394389915355725168640, 755953727545780729745907189762485801657394389915355725168640, 1445933133545091118215481, 1⟩,
  ⟨755953727545820263058810810907652606581759140914998135488512, 755953727545820263058810810907652606581759140914998135488512, 1441377291880568130973745, 1⟩,
  ⟨755953727546933499622388229704976892690341693219869898571776, 755953727546933499622388229704976892690341693219869898571776, 1441377291880568130973745, 1⟩]
def tldPart_7_3 : List (TldRow) := [
  ⟨755953727547185068997081821009660282680504710624326673498112, 755953727547185068997081821009660282680504710624326673498112, 1445933132982141198348592, 1⟩,
  ⟨755953727548376757838311196149896044578695735163234130329600, 755953727548376757838311196149896044578695735163234130329600, 1445933133263616225391160, 1⟩,
  ⟨755953727548634980012584258449854449150501828211623583547392, 755953727548634980012584258449854449150501828211623583547392, 1445933133263616225391161, 1⟩,
  ⟨755953727548669361910344907649889831120523124464231548715008, 755953727548669361910344907649889831120523124464231548715008, 1445933133545095413182513, 1⟩,
  ⟨755953727550159502929547207995098377507605323873304061149184, 755953727550159502929547207995098377507605323873304061149184, 1445933132700670449496627, 1⟩,
  ⟨755953727551569556503696632616413262258700152671503068037120, 755953727551569556503696632616413262258700152671503068037120, 1445933132982141282234935, 1⟩,
  ⟨755953727551569556503696632616413262258701304530647448510976, 755953727551569556503696632616413262258701304530647448510976, 1445933132982141282234935, 1⟩,
  ⟨755953727551586661877131603041757294335262589365106874777600, 755953727551586661877131603041757294335262589365106874777600, 1445933132982141265457714, 1⟩,
  ⟨755953727551660873421590440652142815390840001116667222425600, 755953727551660873421590440652142815390840001116667222425600, 1445933133263616158282040, 1⟩,
  ⟨755953727552751312959291883087651488435850474217845918007296, 755953727552751312959291883087651488435850474217845918007296, 1445933133545091134992437, 1⟩,
  ⟨755953727552751318098506020466879963063504390981691688091648, 755953727552751318098506020466879963063504390981691688091648, 1445933133545091168547126, 1⟩,
  ⟨755953727553042118856706097302244369274660920132045826424832, 755953727553042118856706097302244369274660920132045826424832, 1441377291880568130973745, 1⟩,
  ⟨755953727553042119206853994407898478346727583565214755323904, 755953727553042119206853994407898478346727583565214755323904, 1441377291880568130973745, 1⟩,
  ⟨755953727554509659553533549311770660392135996471562125443072, 755953727554509659553533549311770660392135996471562125443072, 1445933132982141265457460, 1⟩,
  ⟨755953727554526474070147837384410230400575459422150296862720, 755953727554526474070147837384410230400575459422150296862720, 1441377291880568130973745, 1⟩,
  ⟨755953727554526474071168684337808724940173219389594941784064, 755953727554526474071168684337808724940173219389594941784064, 1441377291880568130973745, 1⟩,
  ⟨755953727555702481654565816410766835583392467239239466090496, 755953727555702481654565816410766835583392467239239466090496, 1441377291880568130973745, 1⟩,
  ⟨755953727555959770563335361288514236900320049183765854945280, 755953727555959770563335361288514236900320049183765854945280, 1441377291880568130973745, 1⟩,
  ⟨755953727555965122218818381161988960814390259212777110372352, 755953727555965122218818381161988960814390259212777110372352, 1441377291880568130973745, 1⟩,
  ⟨755953727557421266800314879424382827320507851038921699885056, 755953727557421266800314879424382827320507851038921699885056, 1445933132700670483050807, 1⟩,
  ⟨756008156940210308307476759424757890699408793948870697549824, 756008156940210308307476759424757890699408793948870697549824, 1445933133263616242167861, 1445933134108041155523120⟩,
  ⟨756206093401420692434780444679752190883707772993693034741760, 756206093401420692434780444679752190883707772993693034741760, 1445933132137716268216629, 1⟩,
  ⟨756230804892017154892621473025564989619293625162038245326848, 756230804892017154892621473025564989619293625162038245326848, 1445933132982141164794169, 1⟩,
  ⟨761917264458581655786602541378314647118789646208467900301312, 761917264458581655786602541378314647118789646208467900301312, 1445933132982141215126066, 1⟩,
  ⟨761917745974485068348549551646458616108460515426858973528064, 761917745974485068348549551646458616108460515426858973528064, 1445933133545091118215475, 1⟩,
  ⟨761918219655143640482998083644612170382080956056468598030336, 761918219655143640482998083644612170382080956056468598030336, 1445933133263620402917431, 1⟩,
  ⟨761918316530794344852238649925888437483524316571828144308224, 761918316530794344852238649925888437483524316571828144308224, 1445933132982141248680248, 1⟩,
  ⟨762005822775827648819237609004002535989112891201596877176832, 762005822775827648819237609004002535989112891201596877176832, 1441377291880568130973745, 1⟩,
  ⟨762260641833310635481180622742411676439271169768142648901632, 762260641833310635481180622742411676439271169768142648901632, 1445933133263616141504825, 1⟩,
  ⟨762260923794419173397081891221235631584601379190362217644032, 762260923794419173397081891221235631584601379190362217644032, 1445933132982145426207029, 1⟩,
  ⟨762261312308878639681554730795699049291505434896210866470912, 762261312308878639681554730795699049291505434896210866470912, 1445933132982141198348339, 1⟩,
  ⟨762262228436008772848851689940982622094397101490977221115904, 762262228436008772848851689940982622094397101490977221115904, 1445933133545091134992949, 1⟩,
  ⟨762262272008318820065866178213750683072512506071268265558016, 762262272008318820065866178213750683072512506071268265558016, 1445933132982141265457721, 1⟩,
  ⟨762373621705635462145243612290518610193181388590920941699072, 762373621705635462145243612290518610193181388590920941699072, 1441377291880568130973745, 1⟩,
  ⟨762408677541132769352878559478764673515756667248340891598848, 762408677541132769352878559478764673515756667248340891598848, 1445933133545091134993200, 1⟩,
  ⟨768184844796598912696138464217472582617463647342241161150464, 768184844796598912696138464217472582617463647342241161150464, 1441377291880568130973745, 1⟩,
  ⟨768195614332443135152170408848609986400469901035538894290944, 768195614332443135152170408848609986400469901035538894290944, 1445933133545091185324082, 1⟩,
  ⟨768195800119336240355235532273942794581136874954603626496000, 768195800119336240355235532273942794581136874954603626496000, 1445933133263620402917943, 1⟩,
  ⟨768293885071973525436126525325686854824046816705285611061248, 768293885071973525436126525325686854824046816705285611061248, 1445933133263620436471861, 1⟩,
  ⟨768391731694615807692016841066137874357252177123735947444224, 768391731694615807692016841066137874357252177123735947444224, 1445933132982141282234677, 1⟩,
  ⟨768391773761017434987395535722798414430026331880442331922432, 768391773761017434987395535722798414430026331880442331922432, 1445933133545091202101298, 1445933134389516048347445⟩,
  ⟨768479083940445163356943266846685441980718445253700412768256, 768479083940445163356943266846685441980718445253700412768256, 1441377291880568130973745, 1⟩,
  ⟨768538697493182659614137800661840944962445379960867131490304, 768538697493182659614137800661840944962445379960867131490304, 1445933132982141148016948, 1⟩,
  ⟨768684960054266678202859300897200434268758955358261138685952, 768684960054266678202859300897200434268758955358261138685952, 1445933132982145459761717, 1⟩,
  ⟨768724283226983705574280602371029491450097443513249789116416, 768724283226983705574280602371029491450097443513249789116416, 1441377291880568130973745, 1⟩]
def tldPart_7 : List (TldRow) := tldPart_7_0 ++ tldPart_7_1 ++ tldPart_7_2 ++ tldPart_7_3
/-- tldMap literal of util/gtld_map.go, sorted by key, in 8 parts -/
def tld : List TldRow := tldPart_0 ++ (tldPart_1 ++ (tldPart_2 ++ (tldPart_3 ++ (tldPart_4 ++ (tldPart_5 ++ (tldPart_6 ++ (tldPart_7
)))))))def tldSourceLen : Nat := 1574
def tldRuntimeLen : Nat := 1574
end Zl.Generated
