/-
  `width` (how many bytes `utf8.DecodeRune` consumes) is used through three facts: its bounds, the shape of a
  multi-byte head (`width_ge_two`, Table 3-7 of the Unicode standard), and that a multi-byte head alone decides
  it (`width_take_append`). Each is read off `width`'s own case principle. The rune count and the printable
  walk then only need the bounds.
-/
import ZlModel.Thresholds
namespace Zl.Thresholds

theorem subSat_mono (a b u : Int) (h : a ≤ b) : subSat a u ≤ subSat b u := by
  simp only [subSat, maxDuration, minDuration]
  omega

theorem lead_some {b s lo hi : Nat} : lead b = some (s, lo, hi) →
    0x80 ≤ lo ∧ hi ≤ 0xBF ∧
    ((s = 2 ∧ 0xC2 ≤ b ∧ b ≤ 0xDF) ∨
     (s = 3 ∧ 0xE0 ≤ b ∧ b ≤ 0xEF ∧ (b = 0xE0 → lo = 0xA0) ∧ (b = 0xED → hi = 0x9F)) ∨
     (s = 4 ∧ 0xF0 ≤ b ∧ b ≤ 0xF4 ∧ (b = 0xF0 → lo = 0x90) ∧ (b = 0xF4 → hi = 0x8F))) := by
  fun_cases lead b
  all_goals rintro ⟨⟩
  all_goals omega

theorem width_bounds {bs : List Nat} (h : bs ≠ []) : 1 ≤ width bs ∧ width bs ≤ 4 ∧ width bs ≤ bs.length := by
  fun_cases width bs
  case case1 => exact absurd rfl h
  all_goals simp

theorem width_ascii {b : Nat} (h : b < 0x80) (rest : List Nat) : width (b :: rest) = 1 := by
  simp [width, h]

theorem width_ge_two {bs : List Nat} : 2 ≤ width bs →
    (∃ b c1 r, bs = b :: c1 :: r ∧ width bs = 2 ∧ 0xC2 ≤ b ∧ b ≤ 0xDF ∧ 0x80 ≤ c1 ∧ c1 ≤ 0xBF) ∨
    (∃ b c1 c2 r, bs = b :: c1 :: c2 :: r ∧ width bs = 3 ∧ 0xE0 ≤ b ∧ b ≤ 0xEF ∧ 0x80 ≤ c1 ∧ c1 ≤ 0xBF ∧
        (b = 0xE0 → 0xA0 ≤ c1) ∧ (b = 0xED → c1 ≤ 0x9F) ∧ 0x80 ≤ c2 ∧ c2 ≤ 0xBF) ∨
    (∃ b c1 c2 c3 r, bs = b :: c1 :: c2 :: c3 :: r ∧ width bs = 4 ∧ 0xF0 ≤ b ∧ b ≤ 0xF4 ∧ 0x80 ≤ c1 ∧ c1 ≤ 0xBF ∧
        (b = 0xF0 → 0x90 ≤ c1) ∧ (b = 0xF4 → c1 ≤ 0x8F) ∧ 0x80 ≤ c2 ∧ c2 ≤ 0xBF ∧ 0x80 ≤ c3 ∧ c3 ≤ 0xBF) := by
  fun_cases width bs
  all_goals intro hw
  -- all branches but three return 0 or 1
  any_goals omega
  all_goals have := lead_some ‹lead _ = some _›
  · exact .inl ⟨_, _, _, rfl, rfl, by omega⟩
  next hc2 _ _ _ =>
    simp [cont] at hc2
    exact .inr (.inl ⟨_, _, _, _, rfl, rfl, by omega⟩)
  next hc2 _ _ _ hc3 _ =>
    simp [cont] at hc2 hc3
    exact .inr (.inr ⟨_, _, _, _, _, rfl, rfl, by omega⟩)

theorem width_take_append (bs t : List Nat) : 2 ≤ width bs → width (bs.take (width bs) ++ t) = width bs := by
  fun_cases width bs
  all_goals intro hw
  any_goals omega
  -- `width` compares the length with a `size` it only knows to come from `lead`
  all_goals have := lead_some ‹lead _ = some _›
  all_goals simp [width, *]
  omega

/-- a rune is one to four bytes -/
theorem runeCountFuel_bounds (fuel : Nat) (bs : List Nat) :
    runeCountFuel fuel bs ≤ bs.length ∧ (bs.length ≤ fuel → bs.length ≤ 4 * runeCountFuel fuel bs) := by
  fun_induction runeCountFuel fuel bs with
  | case1 => omega
  | case2 => simp
  | case3 fuel bs hne ih =>
    have := width_bounds hne
    simp only [List.length_drop] at ih
    omega

theorem runeCountFuel_ascii : ∀ (fuel : Nat) (bs : List Nat), (∀ b ∈ bs, b < 128) → bs.length ≤ fuel →
    runeCountFuel fuel bs = bs.length
  | fuel, [], _, _ => by cases fuel <;> rfl
  | fuel + 1, b :: rest, hall, h => by
    simp only [List.mem_cons, forall_eq_or_imp, List.length_cons] at hall h
    simp only [runeCountFuel, width_ascii hall.1, List.drop_one, List.tail_cons, List.length_cons,
      runeCountFuel_ascii fuel rest hall.2 (by omega), Nat.add_comm]

/-- every branch of `decodeRune` returns a size that the pattern it matched guarantees -/
theorem decodeRune_size {bs : List Nat} (h : bs ≠ []) : 1 ≤ (decodeRune bs).2 ∧ (decodeRune bs).2 ≤ bs.length := by
  fun_cases decodeRune bs
  case case1 => exact absurd rfl h
  all_goals simp

theorem printableWalk_total (fuel : Nat) (bs : List Nat) (h : bs.length ≤ fuel) : printableWalk fuel bs ≠ .panic := by
  fun_induction printableWalk fuel bs
  -- out of fuel
  case case2 => simp at h
  -- the walk goes on behind the rune, which took at least one byte
  case case6 b rest _ _ hd _ _ _ ih =>
    have hs := hd ▸ decodeRune_size (List.cons_ne_nil b rest)
    exact ih (by simp only [List.length_drop, List.length_cons] at h ⊢; omega)
  -- the re-slice
  case case7 b rest _ _ hd _ _ hgt =>
    exact absurd (hd ▸ decodeRune_size (List.cons_ne_nil b rest)).2 hgt
  all_goals simp

end Zl.Thresholds
