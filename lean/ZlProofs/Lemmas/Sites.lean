/-
  Soundness of the guard schemas of ZlModel/Sites.lean: a certificate that `discharged` accepts
  rules the panic out for every container length / index value the facts allow.
-/
import ZlModel.Sites
namespace Zl.Sites

theorem lb_le_of_holds {f : LenFact} {n : Nat} (h : f.holds n = true) : f.lb ≤ n := by
  obtain ⟨rel, c⟩ := f
  cases rel with
  | ne =>
    simp [LenFact.holds, LenFact.lb] at h ⊢
    split <;> omega
  | _ => simp [LenFact.holds, LenFact.lb] at h ⊢ <;> omega

theorem lowerBound_le {fs : List LenFact} {n : Nat} (h : ∀ f ∈ fs, f.holds n = true) : lowerBound fs ≤ n := by
  induction fs with
  | nil => exact Nat.zero_le n
  | cons f fs ih =>
    simp only [List.forall_mem_cons] at h
    exact Nat.max_le.mpr ⟨lb_le_of_holds h.1, ih h.2⟩

theorem index?_isSome {α : Type} (xs : List α) (i : Int) : (index? xs i).isSome = true ↔ 0 ≤ i ∧ i < xs.length := by
  unfold index?
  split <;> simp [*]

theorem slice?_isSome {α : Type} (xs : List α) (lo hi : Int) :
    (slice? xs lo hi).isSome = true ↔ 0 ≤ lo ∧ lo ≤ hi ∧ hi ≤ xs.length := by
  unfold slice?
  split <;> simp [*]

/-- xs[k] with a constant k: safe for every list whose length satisfies the dominating facts -/
theorem idxConst_sound {α : Type} (k : Int) (fs : List LenFact) (hd : discharged (.idxConst k fs) = true)
    (xs : List α) (hf : ∀ f ∈ fs, f.holds xs.length = true) : (index? xs k).isSome = true := by
  have := lowerBound_le hf
  simp only [discharged, Bool.and_eq_true, decide_eq_true_eq, index?_isSome] at hd ⊢
  omega

/-- xs[len xs - k] -/
theorem idxLenMinus_sound {α : Type} (k : Int) (fs : List LenFact) (hd : discharged (.idxLenMinus k fs) = true)
    (xs : List α) (hf : ∀ f ∈ fs, f.holds xs.length = true) : (index? xs ((xs.length : Int) - k)).isSome = true := by
  have := lowerBound_le hf
  simp only [discharged, Bool.and_eq_true, decide_eq_true_eq, index?_isSome] at hd ⊢
  omega

/-- xs[v + k] where v ≥ 0 and the dominating test gives v + a < len xs, k ≤ a -/
theorem idxVar_sound {α : Type} (k a : Int) (hd : discharged (.idxVar k a) = true)
    (xs : List α) (v : Int) (hv : 0 ≤ v) (hup : v + a < (xs.length : Int)) : (index? xs (v + k)).isSome = true := by
  simp only [discharged, Bool.and_eq_true, decide_eq_true_eq, index?_isSome] at hd ⊢
  omega

/-- the guard of `idxVar` is tight: with k = a + 1 the access can fail (so `k ≤ a` is what is needed) -/
theorem idxVar_tight : ∃ (xs : List Nat) (v : Int), 0 ≤ v ∧ v + 0 < (xs.length : Int) ∧ index? xs (v + 1) = none :=
  ⟨[7], 0, by decide, by decide, by decide⟩

theorem sliceLo_sound {α : Type} (k : Int) (fs : List LenFact) (hd : discharged (.sliceLo k fs) = true)
    (xs : List α) (hf : ∀ f ∈ fs, f.holds xs.length = true) : (slice? xs k xs.length).isSome = true := by
  have := lowerBound_le hf
  simp only [discharged, Bool.and_eq_true, decide_eq_true_eq, slice?_isSome] at hd ⊢
  omega

theorem sliceHi_sound {α : Type} (k : Int) (fs : List LenFact) (hd : discharged (.sliceHi k fs) = true)
    (xs : List α) (hf : ∀ f ∈ fs, f.holds xs.length = true) : (slice? xs 0 k).isSome = true := by
  have := lowerBound_le hf
  simp only [discharged, Bool.and_eq_true, decide_eq_true_eq, slice?_isSome] at hd ⊢
  omega

theorem sliceHiLen_sound {α : Type} (k : Int) (fs : List LenFact) (hd : discharged (.sliceHiLen k fs) = true)
    (xs : List α) (hf : ∀ f ∈ fs, f.holds xs.length = true) : (slice? xs 0 ((xs.length : Int) - k)).isSome = true := by
  have := lowerBound_le hf
  simp only [discharged, Bool.and_eq_true, decide_eq_true_eq, slice?_isSome] at hd ⊢
  omega

theorem divConst_sound (k : Int) (hd : discharged (.divConst k) = true) (a : Int) : (div? a k).isSome = true := by
  simp only [discharged, decide_eq_true_eq] at hd
  simp [div?, hd]

/-- A dereference is the elimination of an `Option`; each nil schema names the fact that makes it `some`. -/
def deref? {α : Type} (p : Option α) : Option α := p

theorem nilChecked_sound {α : Type} (p : Option α) (guard : p.isSome = true) : (deref? p).isSome = true := guard

/-- `(p, err) := f(..)`; the callee's contract `err = none → p ≠ nil` is the named assumption A-ERRPAIR -/
theorem errPaired_sound {α ε : Type} (p : Option α) (err : Option ε) (contract : err = none → p.isSome = true)
    (guard : err = none) : (deref? p).isSome = true := contract guard

theorem okPaired_sound {α : Type} (p : Option α) (ok : Bool) (contract : ok = true → p.isSome = true)
    (guard : ok = true) : (deref? p).isSome = true := contract guard

/-- `applies`: the fact is implied by CheckApplies = true on the same, unmodified object; Execute runs only then
    (ZlProofs.Props.C04.execute_only_after_applies), so inside Execute the fact holds. -/
theorem applies_sound {Obj α : Type} (applies : Obj → Bool) (get : Obj → Option α)
    (implied : ∀ o, applies o = true → (get o).isSome = true) (o : Obj) (ran : applies o = true) :
    (deref? (get o)).isSome = true := implied o ran

/-- no non-trivial certificate is accepted vacuously: an index certificate with no facts is rejected -/
example : discharged (.idxConst 0 []) = false := by decide
example : discharged (.idxConst 1 [⟨.ge, 1⟩]) = false := by decide
example : discharged (.idxConst 1 [⟨.gt, 1⟩]) = true := by decide
example : discharged (.idxLenMinus 1 [⟨.ne, 0⟩]) = true := by decide
example : discharged (.idxVar 1 0) = false := by decide
example : discharged .residual = false := by decide

end Zl.Sites
