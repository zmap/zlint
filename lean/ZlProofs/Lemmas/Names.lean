/-
  Facts about `Names.splitDot` (the model of `strings.Split(s, ".")`): labels contain no dot, and there is one
  more label than there are dots. `joinDot` is `strings.Join(labels, ".")`; that it undoes `splitDot` is
  `C20.labels_rejoin`.
-/
import ZlModel.Names
namespace Zl.Names

theorem splitDot_ne_nil (s : Bytes) : splitDot s ≠ [] := by
  fun_induction splitDot s <;> simp

theorem splitDot_no_dot (s : Bytes) : ∀ l ∈ splitDot s, 46 ∉ l := by
  fun_induction splitDot s with
  | case1 => simp
  | case2 _ cs h => exact absurd h (splitDot_ne_nil cs)
  | case3 _ _ _ _ h _ ih =>
    rw [h] at ih
    exact List.forall_mem_cons.mpr ⟨List.not_mem_nil, ih⟩
  | case4 c _ l ls h hc ih =>
    rw [h, List.forall_mem_cons] at ih
    have : 46 ≠ c := fun e => hc (by simp [e])
    exact List.forall_mem_cons.mpr ⟨by simp [ih.1, this], ih.2⟩

/-- `strings.Join(labels, ".")` -/
def joinDot : List Bytes → Bytes
  | [] => []
  | [l] => l
  | l :: l' :: ls => l ++ 46 :: joinDot (l' :: ls)

theorem splitDot_length (s : Bytes) : (splitDot s).length = s.count 46 + 1 := by
  fun_induction splitDot s with
  | case1 => rfl
  | case2 _ cs h => exact absurd h (splitDot_ne_nil cs)
  | case3 c _ _ _ h hc ih => simp [← ih, h, eq_of_beq hc]
  | case4 c _ l ls h hc ih =>
    have : c ≠ 46 := fun e => hc (by simp [e])
    simp [← ih, h, List.count_cons_of_ne this]

end Zl.Names
