import ZlModel.Ip
namespace Zl

/-- CIDR containment on numbers: width `w`, base `b`, prefix `p`, address `x` -/
def cont (w b p x : Nat) : Bool := x / 2 ^ (w - p) == b / 2 ^ (w - p)

theorem cont_self {w b p : Nat} : cont w b p b = true := beq_self_eq_true _

/-- agreeing on a longer prefix implies agreeing on a shorter one (a prefix longer than the width
    counts as the full width) -/
theorem cont_shorter {w a b p q : Nat} (hqp : q ≤ p) (h : a / 2 ^ (w - p) = b / 2 ^ (w - p)) :
    a / 2 ^ (w - q) = b / 2 ^ (w - q) := by
  rw [← Nat.sub_add_cancel (Nat.sub_le_sub_left hqp w), Nat.pow_add, Nat.mul_comm, ← Nat.div_div_eq_div_mul,
    ← Nat.div_div_eq_div_mul, h]

/-- two CIDR blocks that share an address are nested: the one with the shorter prefix contains the
    whole of the other -/
theorem cont_nested {w a p b q x : Nat} (hqp : q ≤ p) (hxa : cont w a p x = true) (hxb : cont w b q x = true)
    (y : Nat) (hy : cont w a p y = true) : cont w b q y = true := by
  simp only [cont, beq_iff_eq] at *
  rw [cont_shorter hqp hy, ← cont_shorter hqp hxa, hxb]

/-- `cont_nested` under the bound `p ≤ w`, which the proof does not use -/
theorem nested (w a p b q x : Nat) (hqp : q ≤ p) (hpw : p ≤ w)
    (hxa : cont w a p x = true) (hxb : cont w b q x = true) : ∀ y, cont w a p y = true → cont w b q y = true :=
  cont_nested hqp hxa hxb

theorem cont_full (w b x : Nat) : cont w b w x = true ↔ x = b := by simp [cont]

/-- a canonical block (no host bits in the base) that contains address 0 starts there -/
theorem base_eq_zero {w a p : Nat} (h0 : cont w a p 0 = true) (hcan : a % 2 ^ (w - p) = 0) : a = 0 := by
  have h := Nat.div_add_mod a (2 ^ (w - p))
  rw [hcan, ← eq_of_beq h0] at h
  simpa using h.symm

/-! ### normal forms -/

theorem Addr.norm_width (a : Addr) : a.norm.width = 32 ∨ a.norm = a := by
  unfold Addr.norm
  split
  · exact Or.inl rfl
  · exact Or.inr rfl

theorem Addr.to4_of_32 (v : Nat) : (⟨32, v⟩ : Addr).to4 = some v := by simp [Addr.to4]

theorem Addr.norm_idem (a : Addr) : a.norm.norm = a.norm := by
  unfold Addr.norm
  cases h : a.to4 with
  | some v => simp [Addr.to4_of_32]
  | none => simp [h]

theorem Net.base_norm (n : Net) : n.base.norm = n.norm.base := by
  unfold Net.norm Addr.norm
  cases n.base.to4 with
  | some v => simp only []; split <;> rfl
  | none => rfl

/-- `contains` only looks at normal forms -/
theorem Net.contains_eq (n : Net) (x : Addr) :
    n.contains x = (n.norm.base.width == x.norm.width && cont n.norm.base.width n.norm.base.val n.norm.plen x.norm.val) := rfl

theorem Net.contains_iff (n : Net) (x : Addr) : n.contains x = true ↔
    n.norm.base.width = x.norm.width ∧ cont n.norm.base.width n.norm.base.val n.norm.plen x.norm.val = true := by
  simp [Net.contains_eq]

theorem Net.contains_base_iff (n m : Net) : n.contains m.base = true ↔
    n.norm.base.width = m.norm.base.width ∧ cont n.norm.base.width n.norm.base.val n.norm.plen m.norm.base.val = true := by
  rw [Net.contains_iff, Net.base_norm]

/-- `cont_nested` for networks -/
theorem Net.nested {A B : Net} {x : Addr} (hBA : B.norm.plen ≤ A.norm.plen)
    (hxA : A.contains x = true) (hxB : B.contains x = true) (y : Addr) (hy : A.contains y = true) : B.contains y = true := by
  rw [Net.contains_iff] at *
  obtain ⟨hwB, hcB⟩ := hxB
  rw [hwB, ← hxA.1] at hcB ⊢
  exact ⟨hy.1, cont_nested hBA hxA.2 hcB _ hy.2⟩

/-! ### the verdicts only look at normal forms -/

theorem Net.contains_congr {n m : Net} {x y : Addr} (hn : n.norm = m.norm) (hx : x.norm = y.norm) :
    n.contains x = m.contains y := by
  simp only [Net.contains_eq, hn, hx]

theorem Addr.isGlobalUnicast_congr {x y : Addr} (hx : x.norm = y.norm) : x.isGlobalUnicast = y.isGlobalUnicast := by
  simp only [Addr.isGlobalUnicast, hx]

theorem isReservedIn_congr (tbl : List Net) {x y : Addr} (hx : x.norm = y.norm) : isReservedIn tbl x = isReservedIn tbl y := by
  simp only [isReservedIn, Addr.isGlobalUnicast_congr hx, Net.contains_congr rfl hx]

theorem intersectsIn_congr (tbl : List Net) {n m : Net} (hn : n.norm = m.norm) : intersectsIn tbl n = intersectsIn tbl m := by
  have hb : n.base.norm = m.base.norm := by rw [Net.base_norm, hn, Net.base_norm]
  simp only [intersectsIn, Addr.isGlobalUnicast_congr hb, Net.contains_congr rfl hb, Net.contains_congr hn rfl]

theorem isReservedIn_iff (tbl : List Net) (x : Addr) :
    isReservedIn tbl x = true ↔ x.isGlobalUnicast = false ∨ ∃ r ∈ tbl, r.contains x = true := by
  simp [isReservedIn]

theorem intersectsIn_iff (tbl : List Net) (n : Net) :
    intersectsIn tbl n = true ↔ isReservedIn tbl n.base = true ∨ ∃ r ∈ tbl, n.contains r.base = true := by
  simp [intersectsIn, isReservedIn_iff, and_or_left, exists_or, or_assoc]

/-! ### the non-global-unicast classes as CIDR blocks -/

/-- (width, base, prefix) of the address classes `IsGlobalUnicast` excludes:
    255.255.255.255/32, 0.0.0.0/32, 127/8, 224/4, 169.254/16; ::/128, ::1/128, ff00::/8, fe80::/10 -/
def nonGUBlocks : List (Nat × Nat × Nat) :=
  [ (32, 4294967295, 32), (32, 0, 32), (32, 2130706432, 8), (32, 3758096384, 4), (32, 2851995648, 16),
    (128, 0, 128), (128, 1, 128), (128, 338953138925153547590470800371487866880, 8), (128, 338288524927261089654018896841347694592, 10) ]

theorem notGU_iff (a : Addr) (hw : a.norm.width = 32 ∨ a.norm.width = 128) :
    a.isGlobalUnicast = false ↔ ∃ B ∈ nonGUBlocks, B.1 = a.norm.width ∧ cont B.1 B.2.1 B.2.2 a.norm.val = true := by
  have h : a.isGlobalUnicast = !nonGUBlocks.any (fun B => B.1 == a.norm.width && cont B.1 B.2.1 B.2.2 a.norm.val) := by
    unfold Addr.isGlobalUnicast
    generalize a.norm = n at hw ⊢
    obtain ⟨w, v⟩ := n
    rcases hw with rfl | rfl <;> simp [nonGUBlocks, cont, bne, Bool.and_assoc]
  simp only [h, Bool.not_eq_false', List.any_eq_true, Bool.and_eq_true, beq_iff_eq]

end Zl
