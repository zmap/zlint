import ZlModel.Framework
namespace Zl

theorem Time.before_iff (a b : Time) : Time.before a b = true ↔ Time.lt a b := by
  unfold Time.before Time.lt
  simp only [Bool.or_eq_true, Bool.and_eq_true, decide_eq_true_eq, beq_iff_eq]

theorem Time.onOrAfter_iff (t e : Time) : Time.onOrAfter t e = true ↔ Time.le e t := by
  unfold Time.onOrAfter
  rw [Bool.not_eq_true', ← Bool.not_eq_true, Time.before_iff]
  unfold Time.lt Time.le
  omega

theorem Time.le_refl (a : Time) : Time.le a a := by
  unfold Time.le; omega

theorem Time.not_le_of_lt {a b : Time} (h : Time.lt a b) : ¬ Time.le b a := by
  unfold Time.lt at h; unfold Time.le; omega

theorem Time.addSec_neg_one_lt (a : Time) : Time.lt (a.addSec (-1)) a := by
  simp only [Time.lt, Time.addSec]; omega

/-- the statuses the framework itself can produce -/
def frameworkStatus (s : Status) : Prop := s = Status.na ∨ s = Status.ne ∨ s = Status.fatal

theorem frameworkStatus_valid7 {s : Status} (h : frameworkStatus s) : Status.valid7 s = true := by
  rcases h with rfl | rfl | rfl <;> decide

variable {Obj Cfg : Type} {gate : Bool} {k : Kind} {sc : Scope} {t : Time} {l : Lint Obj Cfg} {o : Obj} {cfg : Cfg}
  {s : Status} {d m name : String} {e : Exec}

/-! ### `executeRaw`: which inputs give which kind of outcome, read off the nine paths of the definition -/

theorem executeRaw_result (h : (executeRaw gate t l o cfg).1 = .result s d) :
    frameworkStatus s ∨ (gate = true ∧ l.configure cfg = .ok none ∧ l.applies o = .ok true ∧
      checkEffective l.md.eff l.md.ineff t = true ∧ l.body o = .res s d) := by
  revert h
  fun_cases executeRaw gate t l o cfg <;> simp_all [frameworkStatus]

theorem executeRaw_nil_iff :
    (executeRaw gate t l o cfg).1 = .nilResult ↔
      gate = true ∧ l.configure cfg = .ok none ∧ l.applies o = .ok true ∧
      checkEffective l.md.eff l.md.ineff t = true ∧ l.body o = .nil := by
  fun_cases executeRaw gate t l o cfg <;> simp_all

/-- `executeRaw` panics exactly when the first stage reached that does not complete panics -/
theorem executeRaw_panic_iff :
    (executeRaw gate t l o cfg).1 = .panic m ↔
      gate = true ∧ (l.configure cfg = .panic m
        ∨ (l.configure cfg = .ok none ∧ (l.applies o = .panic m
          ∨ (l.applies o = .ok true ∧ checkEffective l.md.eff l.md.ineff t = true ∧ l.body o = .panic m)))) := by
  fun_cases executeRaw gate t l o cfg <;> simp_all

/-! ### `execute` is `executeRaw` behind the gate of its kind, under the recovery of its kind -/

/-- the gate `execute` passes to `executeRaw`: the source gate for certificate lints, none for CRL / OCSP -/
def gateOf (k : Kind) (sc : Scope) (l : Lint Obj Cfg) : Bool :=
  match k with
  | .cert => inScope l.md.source sc
  | _ => true

theorem gateOf_iff : gateOf k sc l = true ↔ (k = .cert → inScope l.md.source sc = true) := by
  cases k <;> simp [gateOf]

/-- what `execute` does to the raw outcome: only `CertificateLint.Execute` has the deferred `recover` -/
def recoverOf (k : Kind) (name : String) (e : Exec) : Exec :=
  match k with
  | .cert => recoverExec name e
  | _ => e

theorem execute_eq : execute k sc t l o cfg =
    (recoverOf k l.md.name (executeRaw (gateOf k sc l) t l o cfg).1, (executeRaw (gateOf k sc l) t l o cfg).2) := by
  cases k <;> rfl

theorem execute_of_ne_cert (hk : k ≠ .cert) : execute k sc t l o cfg = executeRaw true t l o cfg := by
  cases k <;> simp_all [execute]

@[simp] theorem recoverOf_result : recoverOf k name (.result s d) = .result s d := by
  cases k <;> rfl

theorem recoverOf_eq_nil : recoverOf k name e = .nilResult ↔ e = .nilResult := by
  cases k <;> cases e <;> simp [recoverOf, recoverExec]

theorem recoverOf_eq_panic : recoverOf k name e = .panic m ↔ k ≠ .cert ∧ e = .panic m := by
  cases k <;> cases e <;> simp [recoverOf, recoverExec]

theorem recoverOf_eq_result (h : recoverOf k name e = .result s d) :
    e = .result s d ∨ ∃ m, e = .panic m ∧ s = Status.fatal ∧ d = panicDetails name m := by
  cases k <;> cases e <;> simp_all [recoverOf, recoverExec]

/-- Every status that comes out of `Execute` is NA, NE, fatal, or the body's own status
    (with the body's details), the body having been reached. The framework adds nothing else. -/
theorem execute_status_from (h : (execute k sc t l o cfg).1 = .result s d) :
    frameworkStatus s ∨ (gateOf k sc l = true ∧ l.configure cfg = .ok none ∧ l.applies o = .ok true ∧
      checkEffective l.md.eff l.md.ineff t = true ∧ l.body o = .res s d) := by
  rw [execute_eq] at h
  rcases recoverOf_eq_result h with h | ⟨_, _, h, _⟩
  · exact executeRaw_result h
  · exact .inl (.inr (.inr h))

end Zl
