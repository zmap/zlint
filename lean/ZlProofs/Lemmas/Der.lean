/-
  The two halves of "the DER element reader inverts the encoder" (C09.der_reader_inverts_encoder): the long form
  `encLen` writes is minimal, and the reader accepts a minimal long form.
-/
import ZlModel.Der
namespace Zl.Der

/-- the reader accepts a long-form length that is minimal: at most four octets `ds`, all of them needed, for a
    value that needs the long form -/
theorem readAny_long (t : Nat) (ds c rest : Bytes) (ht : t % 32 ≠ 31) (hne : ds ≠ []) (h4 : ds.length ≤ 4)
    (hlen : beNat ds = c.length) (h128 : 128 ≤ c.length) (hmin : 256 ^ (ds.length - 1) ≤ c.length)
    (h32 : c.length + 6 < 4294967296) :
    readAny (t :: (128 + ds.length) :: (ds ++ (c ++ rest))) = some (t, c, rest) := by
  have e1 : ¬ 128 + ds.length < 128 := by omega
  have e2 : ¬ c.length < 128 := by omega
  have e3 : ¬ 4294967296 ≤ 2 + ds.length + c.length := by omega
  have e4 : ¬ c.length < 256 ^ (ds.length - 1) := by omega
  simp [readAny, ht, e1, e2, e3, e4, hlen, hne, h4, Nat.div_eq_zero_iff]

theorem encLen_long {n : Nat} (h128 : 128 ≤ n) (h32 : n + 6 < 4294967296) :
    ∃ ds, encLen n = (128 + ds.length) :: ds ∧ ds ≠ [] ∧ ds.length ≤ 4 ∧ beNat ds = n ∧ 256 ^ (ds.length - 1) ≤ n := by
  fun_cases encLen n
  · omega
  · exact ⟨[_], rfl, by simp, by simp, by simp [beNat], by simp; omega⟩
  · exact ⟨[_, _], rfl, by simp, by simp, by simp [beNat]; omega, by simp; omega⟩
  · exact ⟨[_, _, _], rfl, by simp, by simp, by simp [beNat]; omega, by simp; omega⟩
  · exact ⟨[_, _, _, _], rfl, by simp, by simp, by simp [beNat]; omega, by simp; omega⟩

end Zl.Der
