/-
  The pin table of `Generated/PanicSites.lean` (`modelPins`, one row per hand-modelled function and property) is emitted
  as `modelPins_0 ++ modelPins_1 ++ …`, and the kernel pays every element once per `++` above it. The `PinsNN` modules
  therefore evaluate `pinsHold` / `pinCount` on the chunks laid side by side. The rows come from
  /verif/modelled_functions.json alone (only the hashes come from /repo), so the list of chunks changes only when that
  file does.
-/
import ZlModel.Generated.PanicSites
namespace Zl.Generated

def pinChunks : List (List (Nat × Nat × Nat × Nat)) :=
  [modelPins_0, modelPins_1, modelPins_2, modelPins_3, modelPins_4, modelPins_5, modelPins_6, modelPins_7,
   modelPins_8, modelPins_9, modelPins_10, modelPins_11, modelPins_12, modelPins_13, modelPins_14, modelPins_15]

theorem modelPins_eq : modelPins = pinChunks.flatten := by
  simp [modelPins, pinChunks]

theorem pinsHold_eq (prop : Nat) :
    pinsHold prop = pinChunks.all (fun c => (c.filter (fun p => p.1 == prop)).all (fun p => p.2.2.1 == p.2.2.2)) := by
  rw [pinsHold, modelPins_eq]
  induction pinChunks with
  | nil => rfl
  | cons c cs ih => rw [List.flatten_cons, List.filter_append, List.all_append, ih, List.all_cons]

theorem pinCount_pos (prop : Nat) (h : pinChunks.any (fun c => c.any (fun p => p.1 == prop)) = true) :
    decide (0 < pinCount prop) = true := by
  obtain ⟨c, hc, hp⟩ := List.any_eq_true.mp h
  obtain ⟨p, hpc, hpp⟩ := List.any_eq_true.mp hp
  rw [decide_eq_true_eq, pinCount, modelPins_eq, List.length_pos_iff_exists_mem]
  exact ⟨p, List.mem_filter.mpr ⟨List.mem_flatten.mpr ⟨c, hc, hpc⟩, hpp⟩⟩

end Zl.Generated
