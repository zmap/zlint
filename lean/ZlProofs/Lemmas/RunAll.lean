import ZlProofs.Lemmas.Framework
namespace Zl

/-! Fold invariants of the result-set loop. -/

theorem updateFlags_eq (rs : ResultSet) (s : Status) : updateFlags rs s =
    { rs with notices := rs.notices || s == Status.notice, warnings := rs.warnings || s == Status.warn,
              errors := rs.errors || s == Status.error, fatals := rs.fatals || s == Status.fatal } := by
  fun_cases updateFlags rs s <;>
    simp_all [beq_false_of_ne, Status.notice, Status.warn, Status.error, Status.fatal]

theorem updateFlags_version (rs : ResultSet) (s : Status) : (updateFlags rs s).version = rs.version := by
  rw [updateFlags_eq]

theorem mapInsert_fresh {β : Type} {m : List (String × β)} {k : String} {v : β}
    (h : k ∉ m.map (·.1)) : mapInsert m k v = (k, v) :: m :=
  congrArg _ (List.filter_eq_self.mpr fun p hp => bne_iff_ne.mpr fun heq => h (List.mem_map.mpr ⟨p, hp, heq⟩))

/-- flags agree with contents -/
structure FlagsOK (rs : ResultSet) : Prop where
  notices : rs.notices = true ↔ ∃ p ∈ rs.results, p.2.status = Status.notice
  warnings : rs.warnings = true ↔ ∃ p ∈ rs.results, p.2.status = Status.warn
  errors : rs.errors = true ↔ ∃ p ∈ rs.results, p.2.status = Status.error
  fatals : rs.fatals = true ↔ ∃ p ∈ rs.results, p.2.status = Status.fatal

/-- state of the loop after the lints `done` (in order) have been processed -/
structure Good {Obj Cfg : Type} (ex : Lint Obj Cfg → Exec) (done : List (Lint Obj Cfg)) (rs : ResultSet) : Prop where
  keys : rs.results.map (·.1) = (done.map (·.md.name)).reverse
  flags : FlagsOK rs
  entries : ∀ l ∈ done, ∃ s d, ex l = .result s d ∧ (l.md.name, (⟨s, d, l.md⟩ : Result)) ∈ rs.results
  only : ∀ p ∈ rs.results, ∃ l ∈ done, ∃ s d, ex l = .result s d ∧ p = (l.md.name, (⟨s, d, l.md⟩ : Result))

/-- the loop body with the per-lint outcome abstracted -/
def stepWith {Obj Cfg : Type} (ex : Lint Obj Cfg → Exec) (acc : Run) (l : Lint Obj Cfg) : Run :=
  match acc with
  | .panicked m => .panicked m
  | .returned rs =>
    match ex l with
    | .panic m => .panicked m
    | .nilResult => .panicked "nil pointer dereference"
    | .result s d =>
      .returned (updateFlags { rs with results := mapInsert rs.results l.md.name ⟨s, d, l.md⟩ } s)

theorem stepRun_eq_stepWith {Obj Cfg : Type} (k : Kind) (sc : Scope) (t : Time) (o : Obj) (cfg : Cfg) :
    stepRun k sc t o cfg = stepWith (fun l : Lint Obj Cfg => (execute k sc t l o cfg).1) := by
  funext acc l; cases acc <;> rfl

theorem foldl_panicked {Obj Cfg : Type} (ex : Lint Obj Cfg → Exec) (ls : List (Lint Obj Cfg)) (m : String) :
    ls.foldl (stepWith ex) (.panicked m) = .panicked m := by
  induction ls with
  | nil => rfl
  | cons l ls ih => simpa [List.foldl, stepWith] using ih

theorem good_step {Obj Cfg : Type} {ex : Lint Obj Cfg → Exec} {done : List (Lint Obj Cfg)} {rs : ResultSet}
    {l : Lint Obj Cfg} (hg : Good ex done rs) (hfresh : l.md.name ∉ done.map (·.md.name))
    {s : Status} {d : String} (he : ex l = .result s d) :
    Good ex (done ++ [l]) (updateFlags { rs with results := mapInsert rs.results l.md.name ⟨s, d, l.md⟩ } s) := by
  have hk : l.md.name ∉ rs.results.map (·.1) := by
    rw [hg.keys]; simpa using hfresh
  rw [updateFlags_eq, mapInsert_fresh hk]
  have flag : ∀ {c : Status} {b : Bool}, (b = true ↔ ∃ p ∈ rs.results, p.2.status = c) →
      ((b || s == c) = true ↔ ∃ p ∈ (l.md.name, (⟨s, d, l.md⟩ : Result)) :: rs.results, p.2.status = c) := by
    intro c b hb
    simp only [Bool.or_eq_true, beq_iff_eq, List.mem_cons, exists_eq_or_imp, hb]
    exact Or.comm
  refine ⟨by simp [hg.keys],
    ⟨flag hg.flags.notices, flag hg.flags.warnings, flag hg.flags.errors, flag hg.flags.fatals⟩, ?_, ?_⟩
  · intro l' hl'
    rcases List.mem_append.mp hl' with h | h
    · obtain ⟨s', d', h1, h2⟩ := hg.entries l' h
      exact ⟨s', d', h1, List.mem_cons_of_mem _ h2⟩
    · cases List.mem_singleton.mp h
      exact ⟨s, d, he, List.mem_cons_self⟩
  · intro p hp
    rcases List.mem_cons.mp hp with h | h
    · exact ⟨l, by simp, s, d, he, h⟩
    · obtain ⟨l', hl', h'⟩ := hg.only p h
      exact ⟨l', by simp [hl'], h'⟩

/-- Main fold invariant: if the loop returns, the result set is `Good` for all lints. -/
theorem fold_good {Obj Cfg : Type} (ex : Lint Obj Cfg → Exec) :
    ∀ (ls done : List (Lint Obj Cfg)) (rs : ResultSet), Good ex done rs →
      ((done ++ ls).map (·.md.name)).Nodup →
      ∀ rs', ls.foldl (stepWith ex) (.returned rs) = .returned rs' → Good ex (done ++ ls) rs' := by
  intro ls
  induction ls with
  | nil => intro done rs hg _ rs' h; cases h; simpa using hg
  | cons l ls ih =>
    intro done rs hg hnd rs' h
    rw [List.append_cons] at hnd ⊢
    have hfresh : l.md.name ∉ done.map (·.md.name) := by
      intro hmem
      simp only [List.map_append, List.nodup_append] at hnd
      exact hnd.1.2.2 _ hmem _ (by simp) rfl
    simp only [List.foldl] at h
    cases he : ex l with
    | panic m => simp [stepWith, he, foldl_panicked] at h
    | nilResult => simp [stepWith, he, foldl_panicked] at h
    | result s d => exact ih _ _ (good_step hg hfresh he) hnd rs' (by simpa [stepWith, he] using h)

/-- The loop panics exactly when some lint's `Execute` panics or returns nil. -/
theorem fold_panics_iff {Obj Cfg : Type} (ex : Lint Obj Cfg → Exec) :
    ∀ (ls : List (Lint Obj Cfg)) (rs : ResultSet),
      (∃ m, ls.foldl (stepWith ex) (.returned rs) = .panicked m) ↔
      ∃ l ∈ ls, (∃ m, ex l = .panic m) ∨ ex l = .nilResult := by
  intro ls
  induction ls with
  | nil => intro rs; simp [List.foldl]
  | cons l ls ih =>
    intro rs
    simp only [List.foldl, List.mem_cons, exists_eq_or_imp]
    cases he : ex l <;> simp [stepWith, he, foldl_panicked, ih]

theorem good_init {Obj Cfg : Type} (ex : Lint Obj Cfg → Exec) : Good ex [] ({} : ResultSet) := by
  refine ⟨rfl, ⟨?_, ?_, ?_, ?_⟩, ?_, ?_⟩ <;> simp

theorem Good.withVersion {Obj Cfg : Type} {ex : Lint Obj Cfg → Exec} {done : List (Lint Obj Cfg)} {rs : ResultSet}
    (h : Good ex done rs) (v : Int) : Good ex done { rs with version := v } :=
  ⟨h.keys, ⟨h.flags.notices, h.flags.warnings, h.flags.errors, h.flags.fatals⟩, h.entries, h.only⟩

theorem runAll_good {Obj Cfg : Type} {v : Int} {k : Kind} {sc : Scope} {t : Time} {ls : List (Lint Obj Cfg)}
    {o : Obj} {cfg : Cfg} {rs : ResultSet} (hnd : (ls.map (·.md.name)).Nodup)
    (h : runAll v k sc t ls o cfg = .returned rs) :
    Good (fun l => (execute k sc t l o cfg).1) ls rs ∧ rs.version = v := by
  simp only [runAll, stepRun_eq_stepWith] at h
  split at h
  next rs0 hf =>
    cases h
    exact ⟨(fold_good _ ls [] {} (good_init _) hnd rs0 hf).withVersion v, rfl⟩
  next => cases h

end Zl
