import ZlModel.Registry
namespace Zl

theorem assocGet_nil {β : Type} (k : String) : assocGet ([] : List (String × β)) k = none := rfl

theorem assocGet_cons {β : Type} (p : String × β) (m : List (String × β)) (k : String) :
    assocGet (p :: m) k = if p.1 == k then some p.2 else assocGet m k := by
  unfold assocGet
  rw [List.find?_cons]
  cases p.1 == k <;> rfl

theorem assocGet_append {β : Type} (m m' : List (String × β)) (k : String) :
    assocGet (m ++ m') k = (assocGet m k).or (assocGet m' k) := by
  simp [assocGet, Option.map_or]

theorem assocGet_isSome {β : Type} (m : List (String × β)) (k : String) :
    (assocGet m k).isSome = m.any (·.1 == k) := by
  rw [assocGet, Option.isSome_map, List.isSome_find?]

theorem assocGet_map_update {β : Type} (m : List (String × List β)) (k k' : String) (v : β) :
    assocGet (m.map (fun p => if p.1 == k' then (p.1, p.2 ++ [v]) else p)) k =
      (assocGet m k).map (fun l => if k == k' then l ++ [v] else l) := by
  induction m with
  | nil => rfl
  | cons p m ih =>
    rw [List.map_cons, assocGet_cons, assocGet_cons, ih]
    by_cases h : p.1 = k
    · subst h; cases p.1 == k' <;> simp
    · cases p.1 == k' <;> simp [h]

/-- `bySource` after one more registration -/
theorem assocAppend_get {β : Type} (m : List (String × List β)) (k k' : String) (v : β) :
    (assocGet (assocAppend m k' v) k).getD [] = (assocGet m k).getD [] ++ if k' == k then [v] else [] := by
  have hs := assocGet_isSome m k
  unfold assocAppend
  split
  next h =>      -- some entry has key `k'`: each of them is extended
    rw [assocGet_map_update]
    by_cases hk : k' = k
    · obtain ⟨l, hl⟩ := Option.isSome_iff_exists.mp (hs.trans (hk ▸ h))
      simp [hk, hl]
    · cases assocGet m k <;> simp [hk, Ne.symm hk]
  next h =>      -- none has: a new entry at the end
    rw [assocGet_append, assocGet_cons, assocGet_nil]
    by_cases hk : k' = k
    · have : assocGet m k = none := by simpa [← hk, h] using hs
      simp [hk, this]
    · cases assocGet m k <;> simp [hk]

theorem find?_eq_some_of_nodup {α β : Type} [BEq β] [LawfulBEq β] {f : α → β} {l : List α}
    (hnd : (l.map f).Nodup) {b : β} {a : α} : l.find? (f · == b) = some a ↔ a ∈ l ∧ f a = b := by
  induction l with
  | nil => simp
  | cons x l ih =>
    rw [List.map_cons, List.nodup_cons, List.mem_map] at hnd
    rw [List.find?_cons_eq_some, ih hnd.2, List.mem_cons]
    constructor
    · rintro (⟨h, rfl⟩ | ⟨_, h, h'⟩)
      · exact ⟨.inl rfl, by simpa using h⟩
      · exact ⟨.inr h, h'⟩
    · rintro ⟨rfl | h, rfl⟩
      · simp
      · exact .inr ⟨by simpa using fun hx => hnd.1 ⟨a, h, hx.symm⟩, h, rfl⟩

theorem eq_of_nodup_map {α β : Type} [BEq β] [LawfulBEq β] {f : α → β} {l : List α} (hnd : (l.map f).Nodup)
    {x y : α} (hx : x ∈ l) (hy : y ∈ l) (h : f x = f y) : x = y :=
  Option.some.inj (((find?_eq_some_of_nodup hnd).mpr ⟨hx, h⟩).symm.trans ((find?_eq_some_of_nodup hnd).mpr ⟨hy, rfl⟩))

/-- `set[a] = struct{}{}` on a Go map used as a set, as the model writes it on lists -/
theorem mem_ite_contains {l : List String} {a x : String} :
    x ∈ (if l.contains a then l else l ++ [a]) ↔ x ∈ l ∨ a = x := by
  split
  next h => exact ⟨.inl, (·.elim id (· ▸ by simpa using h))⟩
  next => simp [eq_comm]

theorem ite_error_eq_ok {ε α : Type} {c : Prop} [Decidable c] {x : ε} {y : Except ε α} {a : α} :
    (if c then .error x else y) = .ok a ↔ ¬ c ∧ y = .ok a := by
  split <;> simp [*]

/-- entries the registration functions accept -/
def Entry.valid {α : Type} (e : Entry α) : Prop := e.ctorNil = false ∧ e.instNil = false ∧ e.md.name ≠ ""

/-- mutual consistency of the tables of one lookup (what C12 calls "lookup by name, lookup by source,
    the full listing and the source list agree with each other") -/
structure LInv {α : Type} (lk : Lookup α) : Prop where
  namesPerm : lk.names.Perm (lk.lints.map (·.md.name))
  nodup : (lk.lints.map (·.md.name)).Nodup
  byName : ∀ n, lk.byNameGet n = lk.lints.find? (fun e => e.md.name == n)
  bySource : ∀ s, lk.bySourceGet s = lk.lints.filter (fun e => e.md.source == s)
  sources : ∀ s, s ∈ lk.sources ↔ ∃ e ∈ lk.lints, e.md.source = s
  valid : ∀ e ∈ lk.lints, e.valid

theorem LInv.empty {α : Type} : LInv ({} : Lookup α) :=
  ⟨.refl _, List.nodup_nil, fun _ => rfl, fun _ => rfl, by simp, by simp⟩

theorem sortStrings_perm (l : List String) : (sortStrings l).Perm l := List.mergeSort_perm _ _

theorem LInv.byName_eq_none {α : Type} {lk : Lookup α} (h : LInv lk) (n : String) :
    lk.byNameGet n = none ↔ n ∉ lk.lints.map (·.md.name) := by
  simp [h.byName]

theorem LInv.byName_some {α : Type} {lk : Lookup α} (h : LInv lk) (n : String) (e : Entry α) :
    lk.byNameGet n = some e ↔ e ∈ lk.lints ∧ e.md.name = n := by
  rw [h.byName, find?_eq_some_of_nodup h.nodup]

theorem register_ok_iff {α : Type} {lk lk' : Lookup α} {e : Entry α} :
    lk.register e = .ok lk' ↔ e.valid ∧ lk.byNameGet e.md.name = none ∧ lk' =
      { lints := lk.lints ++ [e], names := sortStrings (lk.names ++ [e.md.name]), byName := (e.md.name, e) :: lk.byName,
        bySource := assocAppend lk.bySource e.md.source e,
        sources := if lk.sources.contains e.md.source then lk.sources else lk.sources ++ [e.md.source] } := by
  simp [Lookup.register, Entry.valid, ite_error_eq_ok, and_assoc, eq_comm (a := lk')]

/-- **register preserves the invariant** and appends exactly the new lint; any rejected
    registration leaves the state unchanged (it returns no state at all). -/
theorem register_inv {α : Type} (lk lk' : Lookup α) (e : Entry α) (h : LInv lk)
    (hr : lk.register e = .ok lk') : LInv lk' ∧ lk'.lints = lk.lints ++ [e] ∧ e.valid ∧ e.md.name ∉ lk.lints.map (·.md.name) := by
  obtain ⟨hv, hnone, rfl⟩ := register_ok_iff.mp hr
  have hfresh := (h.byName_eq_none _).mp hnone
  refine ⟨⟨?_, ?_, ?_, ?_, ?_, ?_⟩, rfl, hv, hfresh⟩
  · rw [List.map_append]
    exact (sortStrings_perm _).trans (h.namesPerm.append_right _)
  · simpa [List.nodup_append, h.nodup] using hfresh
  · intro n
    rw [Lookup.byNameGet, assocGet_cons, List.find?_append, List.find?_singleton, ← h.byName]
    by_cases hn : e.md.name = n
    · subst hn; simp [hnone]
    · simp [hn, Lookup.byNameGet]
  · intro s
    rw [Lookup.bySourceGet, assocAppend_get, List.filter_append, List.filter_cons, List.filter_nil, ← h.bySource]
    rfl
  · intro s
    rw [mem_ite_contains, h.sources]
    simp [or_and_right, exists_or]
  · simpa [or_imp, forall_and, hv] using h.valid

/-- exact characterisation of the four rejections -/
theorem register_error_iff {α : Type} (lk : Lookup α) (e : Entry α) (h : LInv lk) :
    (∃ err, lk.register e = .error err) ↔ ¬ e.valid ∨ e.md.name ∈ lk.lints.map (·.md.name) := by
  have : (∃ err, lk.register e = .error err) ↔ ¬ ∃ lk', lk.register e = .ok lk' := by
    cases lk.register e <;> simp
  simp only [this, register_ok_iff, h.byName_eq_none, exists_and_left, exists_eq, and_true,
    Classical.not_and_iff_not_or_not, Classical.not_not]

end Zl
