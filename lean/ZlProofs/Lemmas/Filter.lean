import ZlProofs.Lemmas.Registry
namespace Zl

variable {α Cfg : Type}

def nameIn (lk : Lookup α) (n : String) : Prop := n ∈ lk.lints.map (·.md.name)

/-- registry invariant: each lookup consistent, and no name shared between kinds
    (`register` does not enforce the latter; it holds of the real registry by a generated-table theorem, C12) -/
structure RInv (r : Registry α Cfg) : Prop where
  cert : LInv r.cert
  ocsp : LInv r.ocsp
  crl : LInv r.crl
  cross1 : ∀ n, nameIn r.cert n → ¬ nameIn r.ocsp n ∧ ¬ nameIn r.crl n
  cross2 : ∀ n, nameIn r.ocsp n → ¬ nameIn r.crl n

theorem RInv.lookup {r : Registry α Cfg} (h : RInv r) (k : Kind) : LInv (r.lookupOf k) :=
  match k with
  | .cert => h.cert
  | .crl => h.crl
  | .ocsp => h.ocsp

theorem RInv.of_lookupOf {r : Registry α Cfg} (hl : ∀ k, LInv (r.lookupOf k))
    (hc : ∀ k k' n, nameIn (r.lookupOf k) n → nameIn (r.lookupOf k') n → k = k') : RInv r :=
  ⟨hl .cert, hl .ocsp, hl .crl,
    fun n h => ⟨fun h' => (nomatch hc .cert .ocsp n h h'), fun h' => (nomatch hc .cert .crl n h h')⟩,
    fun n h h' => (nomatch hc .ocsp .crl n h h')⟩

theorem RInv.empty (cfg : Cfg) : RInv ({ cfg := cfg } : Registry α Cfg) :=
  ⟨.empty, .empty, .empty, by simp [nameIn], by simp [nameIn]⟩

theorem lookupOf_setLookup (r : Registry α Cfg) (k k' : Kind) (lk : Lookup α) :
    (r.setLookup k lk).lookupOf k' = if k' = k then lk else r.lookupOf k' := by
  cases k <;> cases k' <;> rfl

theorem setLookup_cfg (r : Registry α Cfg) (k : Kind) (lk : Lookup α) : (r.setLookup k lk).cfg = r.cfg := by
  cases k <;> rfl

/-- every registered lint with its kind, in the order in which `find` asks the lookups -/
def Registry.entries (r : Registry α Cfg) : List (Kind × Entry α) :=
  r.cert.lints.map (.cert, ·) ++ r.ocsp.lints.map (.ocsp, ·) ++ r.crl.lints.map (.crl, ·)

theorem mem_entries {r : Registry α Cfg} {k : Kind} {e : Entry α} :
    (k, e) ∈ r.entries ↔ e ∈ (r.lookupOf k).lints := by
  cases k <;> simp [Registry.entries, Registry.lookupOf]

theorem entries_names (r : Registry α Cfg) : r.entries.map (·.2.md.name) =
    r.cert.lints.map (·.md.name) ++ r.ocsp.lints.map (·.md.name) ++ r.crl.lints.map (·.md.name) := by
  simp [Registry.entries, Function.comp_def]

theorem RInv.nodup {r : Registry α Cfg} (h : RInv r) : (r.entries.map (·.2.md.name)).Nodup := by
  rw [entries_names]
  refine List.nodup_append.mpr ⟨List.nodup_append.mpr ⟨h.cert.nodup, h.ocsp.nodup, ?_⟩, h.crl.nodup, ?_⟩
  · rintro a ha _ hb rfl
    exact (h.cross1 a ha).1 hb
  · rintro a ha _ hb rfl
    rcases List.mem_append.mp ha with ha | ha
    · exact (h.cross1 a ha).2 hb
    · exact h.cross2 a ha hb

theorem RInv.find_eq {r : Registry α Cfg} (h : RInv r) (n : String) :
    r.find n = r.entries.find? (·.2.md.name == n) := by
  simp only [Registry.entries, List.find?_append, List.find?_map, Function.comp_def,
    ← h.cert.byName, ← h.ocsp.byName, ← h.crl.byName]
  unfold Registry.find
  cases r.cert.byNameGet n <;> cases r.ocsp.byNameGet n <;> cases r.crl.byNameGet n <;> rfl

theorem find_some_iff {r : Registry α Cfg} (h : RInv r) {n : String} {k : Kind} {e : Entry α} :
    r.find n = some (k, e) ↔ e ∈ (r.lookupOf k).lints ∧ e.md.name = n := by
  rw [h.find_eq, find?_eq_some_of_nodup h.nodup, mem_entries]

theorem find_none_iff {r : Registry α Cfg} (h : RInv r) (n : String) :
    r.find n = none ↔ ∀ k, ¬ nameIn (r.lookupOf k) n := by
  simp only [Option.eq_none_iff_forall_ne_some, find_some_iff h, nameIn, List.mem_map, Prod.forall, ne_eq, not_exists]

/-- `Names()` of a registry satisfying the invariant lists every lint name exactly once -/
theorem names_spec {r : Registry α Cfg} (hr : RInv r) :
    r.names.Nodup ∧ ∀ n, n ∈ r.names ↔ ∃ k, nameIn (r.lookupOf k) n := by
  have hperm : r.names.Perm (r.entries.map (·.2.md.name)) := by
    rw [entries_names]
    exact (sortStrings_perm _).trans ((hr.cert.namesPerm.append hr.ocsp.namesPerm).append hr.crl.namesPerm)
  refine ⟨hperm.nodup_iff.mpr hr.nodup, fun n => ?_⟩
  simp only [hperm.mem_iff, nameIn, ← mem_entries, List.mem_map, Prod.exists]

theorem RInv.cross {r : Registry α Cfg} (h : RInv r) {k k' : Kind} {n : String}
    (h1 : nameIn (r.lookupOf k) n) (h2 : nameIn (r.lookupOf k') n) : k = k' := by
  obtain ⟨e, he, rfl⟩ := List.mem_map.mp h1
  obtain ⟨e', he', hn⟩ := List.mem_map.mp h2
  cases eq_of_nodup_map h.nodup (mem_entries.mpr he') (mem_entries.mpr he) hn
  rfl

/-- registering a valid, everywhere-fresh entry succeeds and preserves the registry invariant -/
theorem registry_register_ok {acc : Registry α Cfg} (ha : RInv acc) (k : Kind) (e : Entry α) (hv : e.valid)
    (hfresh : ∀ k', ¬ nameIn (acc.lookupOf k') e.md.name) :
    ∃ acc', acc.register k e = .ok acc' ∧ RInv acc' ∧
      ∀ k', (acc'.lookupOf k').lints = (acc.lookupOf k').lints ++ if k' = k then [e] else [] := by
  have hreg := register_ok_iff.mpr ⟨hv, ((ha.lookup k).byName_eq_none _).mpr (hfresh k), rfl⟩
  obtain ⟨hinv, hl, -⟩ := register_inv _ _ e (ha.lookup k) hreg
  generalize Lookup.mk .. = lk at hreg hinv hl
  have hlints : ∀ k', ((acc.setLookup k lk).lookupOf k').lints = (acc.lookupOf k').lints ++ if k' = k then [e] else [] := by
    intro k'
    rw [lookupOf_setLookup]
    split
    next h => rw [h, hl]
    next => rw [List.append_nil]
  refine ⟨acc.setLookup k lk, by simp only [Registry.register, hreg], .of_lookupOf ?_ ?_, hlints⟩
  · intro k'
    rw [lookupOf_setLookup]
    split
    · exact hinv
    · exact ha.lookup k'
  · have hname : ∀ k' n, nameIn ((acc.setLookup k lk).lookupOf k') n →
        nameIn (acc.lookupOf k') n ∨ (k' = k ∧ n = e.md.name) := by
      intro k' n hn
      rw [nameIn, hlints, List.map_append, List.mem_append] at hn
      refine hn.imp_right fun h => ?_
      split at h
      next hk => exact ⟨hk, by simpa using h⟩
      next => cases h
    intro k1 k2 n h1 h2
    rcases hname k1 n h1 with g1 | ⟨rfl, hn1⟩ <;> rcases hname k2 n h2 with g2 | ⟨rfl, hn2⟩
    · exact ha.cross g1 g2
    · exact absurd (hn2 ▸ g1) (hfresh k1)
    · exact absurd (hn1 ▸ g2) (hfresh k2)
    · rfl

theorem filterLoop_cons {r : Registry α Cfg} (hr : RInv r) (sel : String → String → Bool) (n : String) (rest : List String)
    {acc : Registry α Cfg} (ha : RInv acc) (hfresh : ∀ k, ¬ nameIn (acc.lookupOf k) n) :
    ∃ acc1, filterLoop r sel (n :: rest) acc = filterLoop r sel rest acc1 ∧ RInv acc1 ∧
      ∀ k e, e ∈ (acc1.lookupOf k).lints ↔
        e ∈ (acc.lookupOf k).lints ∨ (r.find n).filter (fun p => sel n p.2.md.source) = some (k, e) := by
  cases hf : r.find n with
  | none => exact ⟨acc, by simp only [filterLoop, hf], ha, by simp⟩
  | some p =>
    obtain ⟨k0, e0⟩ := p
    obtain ⟨he0, rfl⟩ := (find_some_iff hr).mp hf
    by_cases hsel : sel e0.md.name e0.md.source = true
    · obtain ⟨acc1, hreg, hinv, hmem⟩ := registry_register_ok ha k0 e0 ((hr.lookup k0).valid e0 he0) hfresh
      exact ⟨acc1, by simp [filterLoop, hf, hsel, hreg], hinv, by simp [hmem, Option.filter_some, hsel, eq_comm]⟩
    · exact ⟨acc, by simp [filterLoop, hf, hsel], ha, by simp [Option.filter_some, hsel]⟩

/-- **The loop of `Filter`**, for any selection predicate, over any duplicate-free list of names that are fresh in `acc`. -/
theorem filterLoop_spec {r : Registry α Cfg} (hr : RInv r) (sel : String → String → Bool) (ns : List String)
    (acc : Registry α Cfg) (ha : RInv acc) (hnd : ns.Nodup) (hfresh : ∀ n ∈ ns, ∀ k, ¬ nameIn (acc.lookupOf k) n) :
    ∃ acc', filterLoop r sel ns acc = .ok acc' ∧ RInv acc' ∧
      ∀ k e, e ∈ (acc'.lookupOf k).lints ↔
        e ∈ (acc.lookupOf k).lints ∨ ∃ n ∈ ns, (r.find n).filter (fun p => sel n p.2.md.source) = some (k, e) := by
  induction ns generalizing acc with
  | nil => exact ⟨acc, rfl, ha, by simp⟩
  | cons n rest ih =>
    rw [List.nodup_cons] at hnd
    rw [List.forall_mem_cons] at hfresh
    obtain ⟨acc1, hstep, hinv1, hmem1⟩ := filterLoop_cons hr sel n rest ha hfresh.1
    -- the names still to come stay fresh: what was added is named `n`
    have hfresh1 : ∀ m ∈ rest, ∀ k, ¬ nameIn (acc1.lookupOf k) m := by
      intro m hm k hin
      obtain ⟨e, he, rfl⟩ := List.mem_map.mp hin
      rcases (hmem1 k e).mp he with h | h
      · exact hfresh.2 _ hm k (List.mem_map_of_mem h)
      · obtain ⟨-, rfl⟩ := (find_some_iff hr).mp (Option.filter_eq_some_iff.mp h).1
        exact hnd.1 hm
    obtain ⟨acc', h1, h2, h3⟩ := ih acc1 hinv1 hnd.2 hfresh1
    exact ⟨acc', hstep ▸ h1, h2, fun k e => by
      simp only [h3, hmem1, List.mem_cons, exists_eq_or_imp, or_assoc]⟩

/-- the loop as `filter` runs it: over `Names()`, into an empty registry -/
theorem filterLoop_names {r : Registry α Cfg} (hr : RInv r) (sel : String → String → Bool) :
    ∃ r', filterLoop r sel r.names { cfg := r.cfg } = .ok r' ∧ RInv r' ∧
      ∀ k e, e ∈ (r'.lookupOf k).lints ↔ e ∈ (r.lookupOf k).lints ∧ sel e.md.name e.md.source = true := by
  obtain ⟨hnd, hmem⟩ := names_spec hr
  have hnil : ∀ k, (({ cfg := r.cfg } : Registry α Cfg).lookupOf k).lints = [] := by intro k; cases k <;> rfl
  obtain ⟨r', hl, hinv, h⟩ := filterLoop_spec hr sel r.names { cfg := r.cfg } (.empty _) hnd (by simp [nameIn, hnil])
  refine ⟨r', hl, hinv, fun k e => ?_⟩
  simp only [h, hnil, List.not_mem_nil, false_or, Option.filter_eq_some_iff, find_some_iff hr, hmem]
  constructor
  · rintro ⟨n, -, ⟨he, rfl⟩, hs⟩
    exact ⟨he, hs⟩
  · rintro ⟨he, hs⟩
    exact ⟨_, ⟨k, List.mem_map_of_mem he⟩, ⟨he, rfl⟩, hs⟩

theorem register_cfg {r r' : Registry α Cfg} {k : Kind} {e : Entry α} (h : r.register k e = .ok r') : r'.cfg = r.cfg := by
  unfold Registry.register at h
  split at h <;> cases h
  exact setLookup_cfg ..

theorem filterLoop_cfg {r : Registry α Cfg} {sel : String → String → Bool} {ns : List String} {acc acc' : Registry α Cfg}
    (h : filterLoop r sel ns acc = .ok acc') : acc'.cfg = acc.cfg := by
  fun_induction filterLoop r sel ns acc with
  | case1 => cases h; rfl
  | case3 _ _ _ _ _ _ _ _ hreg ih => exact (ih h).trans (register_cfg hreg)
  | case4 => cases h
  | case2 _ _ _ _ ih | case5 _ _ _ _ _ _ _ ih => exact ih h

/-- needs no invariant: C11's heap theorems speak of arbitrary registries -/
theorem filter_cfg {r r' : Registry α Cfg} {o : FilterOptions} (h : filter r o = .ok r') : r'.cfg = r.cfg := by
  unfold filter at h
  split at h
  · cases h; rfl
  · repeat' split at h
    any_goals cases h
    exact (filterLoop_cfg h :)

theorem lintNamesToMap_go (r : Registry α Cfg) (names acc : List String) :
    match lintNamesToMap.go r names acc with
    | .ok m => (∀ n ∈ names, r.find (trimSpace n) ≠ none) ∧ m ≠ none ∧
        ∀ x, x ∈ m.getD [] ↔ x ∈ acc ∨ ∃ n ∈ names, trimSpace n = x
    | .error _ => ∃ n ∈ names, r.find (trimSpace n) = none := by
  induction names generalizing acc with
  | nil => simp [lintNamesToMap.go]
  | cons n rest ih =>
    cases hf : r.find (trimSpace n) with
    | none =>
      simp only [lintNamesToMap.go, hf]
      exact ⟨n, List.mem_cons_self, hf⟩
    | some p =>
      have := ih (if acc.contains (trimSpace n) then acc else acc ++ [trimSpace n])
      simp only [lintNamesToMap.go, hf]
      generalize lintNamesToMap.go r rest _ = res at this ⊢
      cases res with
      | error _ =>
        obtain ⟨m, hm, h⟩ := this
        exact ⟨m, List.mem_cons_of_mem _ hm, h⟩
      | ok m =>
        exact ⟨List.forall_mem_cons.mpr ⟨by simp [hf], this.1⟩, this.2.1, fun x => by
          simp only [this.2.2, mem_ite_contains, List.mem_cons, exists_eq_or_imp, or_assoc]⟩

theorem lintNamesToMap_spec (r : Registry α Cfg) (names : List String) :
    match lintNamesToMap r names with
    | .ok m => (∀ n ∈ names, r.find (trimSpace n) ≠ none) ∧ (m = none ↔ names = []) ∧
        ∀ x, x ∈ m.getD [] ↔ ∃ n ∈ names, trimSpace n = x
    | .error _ => ∃ n ∈ names, r.find (trimSpace n) = none := by
  unfold lintNamesToMap
  cases names with
  | nil => simp
  | cons a rest =>
    have := lintNamesToMap_go r (a :: rest) []
    simp only [List.isEmpty_cons, Bool.false_eq_true, if_false]
    generalize lintNamesToMap.go r (a :: rest) [] = res at this ⊢
    cases res with
    | error _ => exact this
    | ok m =>
      exact ⟨this.1, iff_of_false this.2.1 (List.cons_ne_nil _ _),
        by simpa only [List.not_mem_nil, false_or] using this.2.2⟩

end Zl
