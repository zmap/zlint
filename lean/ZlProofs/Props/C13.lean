/-
  C13 — Whatever the tool lists can be used to select.
-/
import ZlProofs.Props.C08
import ZlProofs.Lemmas.Tables
import ZlModel.Generated.Tables
namespace Zl.C13
open Zl Generated
variable {α Cfg : Type}

/-- Every name the registry lists is accepted as an include name and as an exclude name
    (names without surrounding blanks — true of every registered name, `listed_names_have_no_blanks`). -/
theorem listed_name_selectable (r : Registry α Cfg) (hr : RInv r) (n : String) (hn : n ∈ r.names)
    (htrim : trimSpace n = n) :
    (∃ r', filter r { includeNames := [n] } = .ok r') ∧ (∃ r', filter r { excludeNames := [n] } = .ok r') := by
  have hfind : r.find (trimSpace n) ≠ none := by
    obtain ⟨k, hk⟩ := ((names_spec hr).2 n).mp hn
    rw [htrim, Ne, find_none_iff hr]
    exact fun h => h k hk
  have ok : ∀ o : FilterOptions, o.nameFilter = none → (∀ m ∈ o.excludeNames ++ o.includeNames, m = n) →
      ∃ r', filter r o = .ok r' := by
    intro o hnf hall
    cases hf : filter r o with
    | ok r' => exact ⟨r', rfl⟩
    | error err =>
      obtain ⟨-, ⟨m, hm, hmn⟩ | ⟨h, -⟩⟩ := (C08.filter_error_iff r hr o).mp ⟨err, hf⟩
      · exact absurd (hall m hm ▸ hmn) hfind
      · simp [hnf] at h
  exact ⟨ok _ rfl (by simp), ok _ rfl (by simp)⟩

/-- … and selecting it by include name yields exactly that lint. -/
theorem include_listed_name_selects_it (r r' : Registry α Cfg) (hr : RInv r) (n : String) (htrim : trimSpace n = n)
    (h : filter r { includeNames := [n] } = .ok r') (k : Kind) (e : Entry α) :
    e ∈ (r'.lookupOf k).lints ↔ (e ∈ (r.lookupOf k).lints ∧ e.md.name = n) := by
  rw [(C08.filter_spec r r' hr { includeNames := [n] } (by simp [FilterOptions.empty]) h).2.2 k e]
  simp [C08.selected, htrim, eq_comm (a := n)]

/-- An unknown name is rejected with an error, never silently ignored (in either list). -/
theorem unknown_name_rejected (r : Registry α Cfg) (hr : RInv r) (o : FilterOptions) (n : String)
    (hn : n ∈ o.includeNames ∨ n ∈ o.excludeNames) (hunk : r.find (trimSpace n) = none) :
    ∃ err, filter r o = .error err := by
  refine (C08.filter_error_iff r hr o).mpr ⟨?_, .inl ⟨n, List.mem_append.mpr hn.symm, hunk⟩⟩
  rcases hn with h | h <;>
    simp only [FilterOptions.empty, List.isEmpty_eq_false_iff.mpr (List.ne_nil_of_mem h), Bool.and_false, Bool.false_and]

/-- Every source the registry lists is a declared constant, is accepted by `LintSource.FromString`
    (hence by `SourceList.FromString` and the include/exclude-sources options) and by the JSON decoder. -/
theorem listed_sources_accepted :
    runtimeSources.all (fun s => fromStringCases.contains s && unmarshalCases.contains s
      && (sourceConsts.map (·.2)).contains s && s != "Unknown") = true := by decide +kernel

/-- the two case lists accept only declared constants, and never the Unknown marker -/
theorem case_lists_are_constants :
    fromStringCases.all (fun s => (sourceConsts.map (·.2)).contains s && s != "Unknown") = true
    ∧ unmarshalCases.all (fun s => (sourceConsts.map (·.2)).contains s && s != "Unknown") = true := by decide +kernel

/-- `SourceList.FromString`'s loop: succeeds iff every non-blank value is in the case list, and then
    returns exactly the trimmed non-blank values, in order. -/
theorem sourceList_go_ok {cases vals : List String} (acc : List String)
    (h : ∀ v ∈ vals, trimSpace v = "" ∨ cases.contains (trimSpace v) = true) :
    sourceListFromString.go cases vals acc = .ok (acc ++ (vals.map trimSpace).filter (· != "")) := by
  induction vals generalizing acc with
  | nil => simp [sourceListFromString.go]
  | cons v rest ih =>
    rw [List.forall_mem_cons] at h
    by_cases he : trimSpace v = ""
    · simp [sourceListFromString.go, he, ih acc h.2]
    · have hc : trimSpace v ∈ cases := by simpa using h.1.resolve_left he
      simp [sourceListFromString.go, he, hc, ih _ h.2]

/-- An unknown source value is rejected with an error rather than dropped. -/
theorem unknown_source_rejected (cases : List String) :
    ∀ (vals acc : List String), (∃ v ∈ vals, trimSpace v ≠ "" ∧ cases.contains (trimSpace v) = false) →
      ∃ x, sourceListFromString.go cases vals acc = .error x := by
  intro vals
  induction vals with
  | nil => simp
  | cons v rest ih =>
    intro acc h
    simp only [List.mem_cons, exists_eq_or_imp] at h
    simp only [sourceListFromString.go]
    split
    next he => exact ih acc (h.resolve_left fun hv => hv.1 (beq_iff_eq.mp he))
    next =>
      split
      next hc => exact ih _ (h.resolve_left fun hv => Bool.false_ne_true (hv.2.symm.trans hc))
      next => exact ⟨_, rfl⟩

/-- every listed source, written alone, is accepted by the model of `SourceList.FromString` over the
    regenerated case list (the comma splitting itself is library code, exercised by the tie) -/
theorem listed_source_parses (s : String) (hs : s ∈ runtimeSources) (htrim : trimSpace s = s) (hne : s ≠ "") :
    sourceListFromString.go fromStringCases [s] [] = .ok [s] := by
  have hall := List.all_eq_true.mp listed_sources_accepted s hs
  simp only [Bool.and_eq_true] at hall
  rw [sourceList_go_ok [] (List.forall_mem_singleton.mpr (.inr (by rw [htrim]; exact hall.1.1.1)))]
  simp [htrim, hne]

/-- every lint named by a registered profile exists (no profile is registered in this tree: the
    evidence reports the count, a vacuous pass is not counted as coverage) -/
theorem profiles_exist : profiles.all (fun p => p.2.all (fun n => runtimeNames.contains n)) = true := by decide +kernel

/-- registered names contain no blanks, so trimming is the identity on them (bytes are visible ASCII) -/
theorem listed_names_have_no_blanks :
    runtimeLints.all (fun l => paddedNameOK (bytesLE nameWidth l.key)) = true := by decide +kernel

/-- non-vacuity -/
example : runtimeSources.length ≥ 10 ∧ fromStringCases.length ≥ 10 := by decide

end Zl.C13
