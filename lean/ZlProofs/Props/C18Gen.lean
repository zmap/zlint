/-
  C18 (regeneration clause) — every table the generator can write is well-formed.

  "for all … future regenerations of the table": whatever the two feeds contain, when
  `renderGTLDMap` returns without error every row it writes has a parseable delegation date and an
  empty or parseable removal date not earlier than the delegation; the rows written from the map have
  pairwise distinct names (so each is keyed by its own name); names taken from the root-zone list are
  lower-case. That names from the gTLD feed are lower-case is an assumption on the feed (A-FEED): the
  generator copies them as they are.
-/
import ZlModel.TldGen
namespace Zl.C18Gen
open Zl

/-- what one accepted entry looks like, spelled out -/
theorem entryOk_iff (e : GEntry) :
    entryOk e = true ↔ ∃ d, parseDate e.deleg = some d ∧
      (e.rem = [] ∨ ∃ r, parseDate e.rem = some r ∧ Time.before r d = false) := by
  unfold entryOk
  cases parseDate e.deleg with
  | none => simp
  | some d =>
    cases e.rem with
    | nil => simp
    | cons b bs => cases parseDate (b :: bs) <;> simp

/-- **validateGTLDs**: no error iff every entry has a parseable delegation date and an empty, or a
    parseable and not earlier, removal date -/
theorem validate_spec (es : List GEntry) : validateG es = true ↔ ∀ e ∈ es, entryOk e = true := by
  simp [validateG, List.all_eq_true]

/-- an entry with an unparseable delegation date is always refused (whatever its removal date) -/
theorem unparseable_delegation_refused (es : List GEntry) (e : GEntry) (he : e ∈ es) (hbad : parseDate e.deleg = none) :
    validateG es = false :=
  List.all_eq_false.mpr ⟨e, he, by simp [entryOk_iff, hbad]⟩

theorem removal_before_delegation_refused (es : List GEntry) (e : GEntry) (he : e ∈ es) (d r : Time)
    (hd : parseDate e.deleg = some d) (hr : parseDate e.rem = some r) (hne : e.rem ≠ []) (hlt : Time.before r d = true) :
    validateG es = false :=
  List.all_eq_false.mpr ⟨e, he, by simp [entryOk_iff, hd, hr, hne, hlt]⟩

theorem mem_putG {m : List GEntry} {e x : GEntry} (h : x ∈ putG m e) : x ∈ m ∨ x = e := by
  unfold putG at h
  split at h
  · obtain ⟨y, hy, rfl⟩ := List.mem_map.mp h
    split
    · exact Or.inr rfl
    · exact Or.inl hy
  · simpa using h

theorem mem_putIfAbsent {m : List GEntry} {e x : GEntry} (h : x ∈ putIfAbsent m e) : x ∈ m ∨ x = e := by
  unfold putIfAbsent at h
  split at h
  · exact Or.inl h
  · simpa using h

theorem mem_foldl {f : List GEntry → GEntry → List GEntry} (hf : ∀ {m e x}, x ∈ f m e → x ∈ m ∨ x = e)
    {es m : List GEntry} {x : GEntry} (h : x ∈ es.foldl f m) : x ∈ m ∨ x ∈ es := by
  induction es generalizing m with
  | nil => exact Or.inl h
  | cons e es ih =>
    rcases ih h with h | h
    · rcases hf h with h | rfl
      · exact Or.inl h
      · exact Or.inr List.mem_cons_self
    · exact Or.inr (List.mem_cons_of_mem _ h)

theorem generate_eq_some {gs : List GEntry} {lines : List (List Nat)} {rows : List GEntry} :
    generate gs lines = some rows ↔
      validateG (delegatedG gs) = true ∧ mergedMap (delegatedG gs) lines ++ [onionRow] = rows := by
  simp [generate]

theorem row_origin {gs : List GEntry} {lines : List (List Nat)} {rows : List GEntry} (h : generate gs lines = some rows)
    {x : GEntry} (hx : x ∈ rows) : x ∈ delegatedG gs ∨ x ∈ tldEntries lines ∨ x = onionRow := by
  obtain ⟨_, rfl⟩ := generate_eq_some.mp h
  rcases List.mem_append.mp hx with hx | hx
  · rcases mem_foldl mem_putIfAbsent hx with hx | hx
    · rcases mem_foldl mem_putG hx with hx | hx
      · cases hx
      · exact Or.inl hx
    · exact Or.inr (Or.inl hx)
  · exact Or.inr (Or.inr (by simpa using hx))

/-- `entryOk` does not read the name -/
theorem entryOk_1985 (n : List Nat) : entryOk ⟨n, date1985, []⟩ = true :=
  (by decide : entryOk ⟨[], date1985, []⟩ = true)

/-- **Every regenerated table has well-formed dates**, whatever the feeds contain. -/
theorem generate_rows_ok (gs : List GEntry) (lines : List (List Nat)) (rows : List GEntry) (h : generate gs lines = some rows) :
    ∀ x ∈ rows, entryOk x = true := by
  intro x hx
  rcases row_origin h hx with h1 | h1 | rfl
  · exact (validate_spec _).1 (generate_eq_some.mp h).1 x h1
  · obtain ⟨l, _, rfl⟩ := List.mem_map.mp h1
    exact entryOk_1985 _
  · decide

/-- the generator refuses (writes nothing) exactly when a delegated feed entry is malformed -/
theorem generate_none_iff (gs : List GEntry) (lines : List (List Nat)) :
    generate gs lines = none ↔ ∃ e ∈ gs, e.deleg ≠ [] ∧ entryOk e = false := by
  simp [generate, validateG, delegatedG]

def names (m : List GEntry) : List (List Nat) := m.map (·.name)

theorem nodup_putIfAbsent (m : List GEntry) (e : GEntry) (h : (names m).Nodup) : (names (putIfAbsent m e)).Nodup := by
  unfold putIfAbsent
  split
  · exact h
  · next hn =>
    rw [names, List.map_append, List.nodup_append]
    refine ⟨h, List.pairwise_singleton _ _, fun a ha b hb hab => hn ?_⟩
    obtain ⟨y, hy, rfl⟩ := List.mem_map.mp ha
    exact List.any_eq_true.mpr ⟨y, hy, beq_iff_eq.mpr (hab.trans (List.mem_singleton.mp hb))⟩

/-- `putG` leaves the same names as `putIfAbsent`: what it replaces has the name of what it puts -/
theorem names_putG (m : List GEntry) (e : GEntry) : names (putG m e) = names (putIfAbsent m e) := by
  unfold putG putIfAbsent
  split
  · refine (List.map_map ..).trans (List.map_congr_left fun x _ => ?_)
    simp only [Function.comp]
    split
    · next h => exact (eq_of_beq h).symm
    · rfl
  · rfl

/-- **the rows written from the map have pairwise distinct names** -/
theorem merged_names_nodup (d : List GEntry) (lines : List (List Nat)) : (names (mergedMap d lines)).Nodup := by
  -- distinct names are an invariant of both folds
  refine List.foldlRecOn (motive := fun m => (names m).Nodup) _ _ ?_ fun m h e _ => nodup_putIfAbsent m e h
  refine List.foldlRecOn (motive := fun m => (names m).Nodup) _ _ List.nodup_nil fun m h e _ => ?_
  rw [names_putG]
  exact nodup_putIfAbsent m e h

theorem lowerByte_idem (b : Nat) : lowerByte (lowerByte b) = lowerByte b := by
  unfold lowerByte
  split
  · -- an upper-case letter moved by 32 is not upper-case
    next h => rw [if_neg]; simp at h ⊢; omega
  · rfl

def isLower (n : List Nat) : Prop := n.map lowerByte = n

/-- **names are lower-case**: from the root-zone list always, from the gTLD feed if the feed's are -/
theorem generate_lowercase (gs : List GEntry) (lines : List (List Nat)) (rows : List GEntry) (h : generate gs lines = some rows)
    (hfeed : ∀ g ∈ gs, isLower g.name) : ∀ x ∈ rows, isLower x.name := by
  intro x hx
  rcases row_origin h hx with h1 | h1 | rfl
  · exact hfeed x (List.mem_filter.1 h1).1
  · obtain ⟨l, _, rfl⟩ := List.mem_map.mp h1
    simp [isLower, lowerByte_idem]
  · show onionRow.name.map lowerByte = onionRow.name; decide

/-- non-vacuity: a feed with a duplicate, an undelegated entry and a removed entry generates; one with
    a removal before the delegation or a malformed delegation date does not -/
example : (generate [⟨[97], date1985, []⟩, ⟨[98], [], []⟩, ⟨[97], date1985, date1985⟩] [[67, 79, 77], [35, 120]]).isSome = true := by decide
example : generate [⟨[97], [50, 48, 50, 48, 45, 48, 49, 45, 48, 49], date1985⟩] [] = none := by decide
example : generate [⟨[97], [50, 48, 50, 48, 45, 49, 45, 49], []⟩] [] = none := by decide

end Zl.C18Gen
