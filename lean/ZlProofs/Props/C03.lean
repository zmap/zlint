/-
  C03 — No findings outside a rule's effective window.
-/
import ZlProofs.Lemmas.Framework
import ZlModel.Generated.Registry
namespace Zl.C03
open Zl

/-- The window predicate is exactly the half-open interval `[eff, ineff)` on instants,
    with a zero bound meaning "unbounded". No location occurs anywhere: instants only. -/
theorem checkEffective_spec (eff ineff t : Time) :
    checkEffective eff ineff t = true ↔
      (eff.isZero = true ∨ Time.le eff t) ∧ (ineff.isZero = true ∨ Time.lt t ineff) := by
  unfold checkEffective
  rw [Bool.and_eq_true, Bool.or_eq_true, Bool.or_eq_true, Time.onOrAfter_iff, Time.before_iff]

/-- the instant that decides the window: notBefore / thisUpdate / nextUpdate is passed as `t`. -/
def inWindow {Obj Cfg : Type} (l : Lint Obj Cfg) (t : Time) : Prop :=
  checkEffective l.md.eff l.md.ineff t = true

theorem not_inWindow {Obj Cfg : Type} {l : Lint Obj Cfg} {t : Time} :
    ¬ inWindow l t ↔ checkEffective l.md.eff l.md.ineff t = false := by
  simp [inWindow]

/-- Main claim: outside the window no lint of any kind ever reports pass/info/warn/error,
    whatever its configuration, applicability test or body do (including panics). -/
theorem no_finding_outside_window {Obj Cfg : Type} (k : Kind) (sc : Scope) (t : Time)
    (l : Lint Obj Cfg) (o : Obj) (cfg : Cfg) (hout : ¬ inWindow l t)
    (s : Status) (d : String) (h : (execute k sc t l o cfg).1 = .result s d) :
    Status.judged s = false := by
  rcases execute_status_from h with hf | ⟨_, _, _, hw, _⟩
  · rcases hf with rfl | rfl | rfl <;> decide
  · exact absurd hw hout

/-- With a configuration that applies cleanly and no panicking stage, an object outside
    the window gets NA or NE and nothing else. -/
theorem outside_window_NA_or_NE {Obj Cfg : Type} (k : Kind) (sc : Scope) (t : Time)
    (l : Lint Obj Cfg) (o : Obj) (cfg : Cfg) (hout : ¬ inWindow l t)
    (hcfg : l.configure cfg = .ok none) (b : Bool) (happ : l.applies o = .ok b) :
    ∃ s, (execute k sc t l o cfg).1 = .result s "" ∧ (s = Status.na ∨ s = Status.ne) := by
  cases b <;> cases hg : gateOf k sc l <;>
    simp [execute_eq, executeRaw, hg, hcfg, happ, not_inWindow.mp hout]

/-- Exactness at the boundaries, for an in-scope, cleanly configured, applicable object. -/
structure Applicable {Obj Cfg : Type} (k : Kind) (sc : Scope) (l : Lint Obj Cfg) (o : Obj) (cfg : Cfg) : Prop where
  scope : k = .cert → inScope l.md.source sc = true
  cfg : l.configure cfg = .ok none
  app : l.applies o = .ok true

theorem judged_in_window {Obj Cfg : Type} (k : Kind) (sc : Scope) (t : Time)
    (l : Lint Obj Cfg) (o : Obj) (cfg : Cfg) (ha : Applicable k sc l o cfg) (hin : inWindow l t)
    (s : Status) (d : String) (hb : l.body o = .res s d) :
    (execute k sc t l o cfg).1 = .result s d := by
  unfold inWindow at hin
  simp [execute_eq, executeRaw, gateOf_iff.mpr ha.scope, ha.cfg, ha.app, hin, hb]

theorem ne_outside_window {Obj Cfg : Type} (k : Kind) (sc : Scope) (t : Time)
    (l : Lint Obj Cfg) (o : Obj) (cfg : Cfg) (ha : Applicable k sc l o cfg) (hout : ¬ inWindow l t) :
    (execute k sc t l o cfg).1 = .result Status.ne "" := by
  simp [execute_eq, executeRaw, gateOf_iff.mpr ha.scope, ha.cfg, ha.app, not_inWindow.mp hout]

/-- exactly at the effective date the object is inside the window (when the window is non-empty) -/
theorem at_effective_in_window (eff ineff : Time) (h : ineff.isZero = true ∨ Time.lt eff ineff) :
    checkEffective eff ineff eff = true := by
  rw [checkEffective_spec]; exact ⟨Or.inr (Time.le_refl _), h⟩

/-- **No rounding**: an object dated before a (non-zero) effective date by *any* amount — one nanosecond is enough — is
    outside the window. Dates are compared as full instants (seconds and nanoseconds), never rounded or truncated to
    what DER can encode. -/
theorem any_instant_before_effective_out (eff ineff t : Time) (hz : eff.isZero = false) (h : Time.lt t eff) :
    checkEffective eff ineff t = false := by
  rw [← Bool.not_eq_true, checkEffective_spec]
  simp [hz, Time.not_le_of_lt h]

/-- … and an object dated before the ineffective date by any amount is still inside (when the effective date allows it) -/
theorem any_instant_before_ineffective_in (eff ineff t : Time) (h : eff.isZero = true ∨ Time.le eff t) (hl : Time.lt t ineff) :
    checkEffective eff ineff t = true := by
  rw [checkEffective_spec]; exact ⟨h, Or.inr hl⟩

/-- an object dated at or after a (non-zero) ineffective date by any amount is outside -/
theorem any_instant_from_ineffective_out (eff ineff t : Time) (hz : ineff.isZero = false) (h : Time.le ineff t) :
    checkEffective eff ineff t = false := by
  rw [← Bool.not_eq_true, checkEffective_spec]
  simp [hz, show ¬ Time.lt t ineff from (Time.not_le_of_lt · h)]

/-- one second before a (non-zero) effective date is outside -/
theorem before_effective_out (eff ineff : Time) (hz : eff.isZero = false) :
    checkEffective eff ineff (eff.addSec (-1)) = false :=
  any_instant_before_effective_out eff ineff _ hz (Time.addSec_neg_one_lt eff)

/-- exactly at a (non-zero) ineffective date is outside -/
theorem at_ineffective_out (eff ineff : Time) (hz : ineff.isZero = false) :
    checkEffective eff ineff ineff = false :=
  any_instant_from_ineffective_out eff ineff ineff hz (Time.le_refl _)

/-- one second before the ineffective date is inside (when the effective date allows it) -/
theorem before_ineffective_in (eff ineff : Time)
    (h : eff.isZero = true ∨ Time.le eff (ineff.addSec (-1))) :
    checkEffective eff ineff (ineff.addSec (-1)) = true :=
  any_instant_before_ineffective_in eff ineff _ h (Time.addSec_neg_one_lt ineff)

/-- non-vacuity on sub-second instants: 400 ms and 1 ns before the effective second are outside, 1 ns before the
    ineffective second is inside -/
example :
    checkEffective ⟨100, 0⟩ ⟨200, 0⟩ ⟨99, 600000000⟩ = false ∧ checkEffective ⟨100, 0⟩ ⟨200, 0⟩ ⟨99, 999999999⟩ = false
    ∧ checkEffective ⟨100, 0⟩ ⟨200, 0⟩ ⟨199, 999999999⟩ = true ∧ checkEffective ⟨100, 0⟩ ⟨200, 0⟩ ⟨200, 1⟩ = false := by
  decide

/-- **The only instants of a linted object that the framework looks at** — directly or through any module function it
    calls (scope predicates, date helpers of package util) — **are the three window targets of the model**: a
    certificate's `NotBefore`, a CRL's `ThisUpdate`, an OCSP response's `NextUpdate`. No `NotAfter`, no embedded SCT
    timestamp, no `ProducedAt` enters the window decision. (The other fields are those of the scope gate.)
    Regenerated from the source on every run. -/
theorem framework_reads_only_window_targets :
    Generated.frameworkObjReadsAll = ["Certificate.EmailAddresses", "Certificate.ExtKeyUsage", "Certificate.NotBefore", "Certificate.OtherNames",
      "Certificate.PolicyIdentifiers", "Certificate.UnknownExtKeyUsage", "Response.NextUpdate", "RevocationList.ThisUpdate"] := by decide +kernel

/-- non-vacuity: a concrete lint, object dated exactly at the effective date, judged by the body -/
def exLint : Lint Unit Unit := { md := { name := "e_x", eff := ⟨100, 0⟩, ineff := ⟨200, 0⟩ }, configure := fun _ => .ok none, applies := fun _ => .ok true, body := fun _ => .res Status.error "d" }

example :
    (execute .crl ⟨true, true, true⟩ ⟨100, 0⟩ exLint () ()).1 = .result Status.error "d"
    ∧ (execute .crl ⟨true, true, true⟩ ⟨99, 0⟩ exLint () ()).1 = .result Status.ne ""
    ∧ (execute .crl ⟨true, true, true⟩ ⟨199, 0⟩ exLint () ()).1 = .result Status.error "d"
    ∧ (execute .crl ⟨true, true, true⟩ ⟨200, 0⟩ exLint () ()).1 = .result Status.ne "" := by
  decide

end Zl.C03
