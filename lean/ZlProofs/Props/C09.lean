/-
  C09 — Verdicts do not depend on the signature value.

  (1) Congruence: if every lint's Execute gives the same outcome on two objects, the two runs give the
  same result set; a lint whose outcome depends only on a set of fields R gives the same outcome on
  objects that agree on R. (2) For the real code, which lints read the signature bits, the whole-
  certificate bytes, fingerprints or the self-signed flag is regenerated from the source and decided
  against the specification's lists.

  Partial: the parser facts (A-SELF: SelfSigned implies issuer bytes = subject bytes; A-PARSE: replacing
  the signature changes no other parsed field except Raw / fingerprints) and A-ASN1 (encoding/asn1
  ignores bit-string contents when e_cert_ext_invalid_der re-parses the certificate) are validated by the
  signature-replacement search, not proved.
-/
import ZlProofs.Lemmas.Der
import ZlProofs.Lemmas.RunAll
import ZlProofs.Props.C05
namespace Zl.C09
open Zl Generated

/-- a lint's outcome depends only on the fields in `R` of an object seen as a field valuation -/
def DependsOnly {F V Cfg : Type} (R : List F) (run : (F → V) → Cfg → Exec) : Prop :=
  ∀ o o' cfg, (∀ f ∈ R, o f = o' f) → run o cfg = run o' cfg

/-- **Congruence of the run**: equal per-lint outcomes give equal result sets (status, details,
    metadata, flags) — or the same panic. -/
theorem runAll_congr {Obj Cfg : Type} (v : Int) (k : Kind) (sc sc' : Scope) (t t' : Time) (ls : List (Lint Obj Cfg))
    (o o' : Obj) (cfg : Cfg) (h : ∀ l ∈ ls, (execute k sc t l o cfg).1 = (execute k sc' t' l o' cfg).1) :
    runAll v k sc t ls o cfg = runAll v k sc' t' ls o' cfg := by
  have : ls.foldl (stepRun k sc t o cfg) (.returned {}) = ls.foldl (stepRun k sc' t' o' cfg) (.returned {}) :=
    List.foldl_rel (r := Eq) rfl fun l hl acc _ hacc => by
      subst hacc
      cases acc with
      | panicked m => rfl
      | returned rs => simp only [stepRun, h l hl]
  simp only [runAll, this]

/-- **Signature independence**: if every lint depends only on fields outside `sigFields` (the signature
    bits and what is derived from the whole certificate), then objects that agree everywhere else
    get the same outcome from every lint. -/
theorem sig_independent {F V Cfg : Type} [DecidableEq F] (sigFields : List F)
    (lints : List (List F × ((F → V) → Cfg → Exec)))
    (hdep : ∀ p ∈ lints, DependsOnly p.1 p.2) (hdisj : ∀ p ∈ lints, ∀ f ∈ p.1, f ∉ sigFields)
    (o o' : F → V) (hagree : ∀ f, f ∉ sigFields → o f = o' f) (cfg : Cfg) :
    ∀ p ∈ lints, p.2 o cfg = p.2 o' cfg := by
  intro p hp
  exact hdep p hp o o' cfg (fun f hf => hagree f (hdisj p hp f hf))

/-! ### regenerated read footprints -/

def fieldIdx (name : String) : Option Nat := (fieldNames.zipIdx.find? (fun p => p.1 == name)).map (·.2)

def readers (name : String) : List String :=
  match fieldIdx name with
  | none => []
  | some i => (registrations.filter (fun r => r.reads.contains i || r.objMethods.contains i)).map (·.name)

/-- the signature bits are read by exactly one lint, and only through `len` -/
theorem signature_readers : readers "Certificate.Signature" = ["e_mp_ecdsa_signature_encoding_correct"]
    ∧ registrations.all (fun r => !r.sigContent) = true ∧ sigContentFns = [] := by decide +kernel

/-- the whole-certificate bytes are read by exactly the two reviewed lints (one walks to the outer
    algorithm identifier with cryptobyte, one re-parses with encoding/asn1) -/
theorem raw_readers : readers "Certificate.Raw" = ["e_cert_ext_invalid_der", "e_cert_sig_alg_not_match_tbs_sig_alg"] := by decide +kernel

/-- the framework itself (the execute loops, the wrappers, the output formatting) reads of the linted object exactly
    the dating fields and the policy identifiers of the scope gate — nothing derived from the signature (no
    fingerprint stamped onto results, no raw bytes) -/
theorem framework_reads :
    frameworkObjReads = ["Certificate.NotBefore", "Certificate.PolicyIdentifiers", "Response.NextUpdate", "RevocationList.ThisUpdate"] := by decide +kernel

/-- the lints that read signature bytes or whole-object bytes were reviewed **in exactly this text**: the hash of
    every lint-package function they reach is pinned, so an edit to one of them (say, a byte search over `c.Raw`
    that is no longer anchored to the to-be-signed part) re-opens the review instead of passing silently.
    Reviewed: `e_cert_sig_alg_not_match_tbs_sig_alg` — modelled, `raw_walk_ignores_signature`;
    `e_cert_ext_invalid_der` — unmarshals `c.Raw` with encoding/asn1 and looks at `TbsCertificate.Extensions` only (A-ASN1);
    `e_mp_ecdsa_signature_encoding_correct` — `len(c.Signature)` only (`signature_readers`);
    `e_crl_revoked_certificates_field_must_be_empty` walks `c.Raw` with cryptobyte down to `revokedCertificates` inside
    the TBSCertList and never reaches the signature; `e_crl_empty_revoked_certificates` unmarshals `c.Raw` with
    encoding/asn1 and looks at `TbsCertList.RevokedCertificates` only (A-ASN1). (C09 quantifies over certificates;
    the CRL lints are pinned for the same reason.) -/
theorem sensitive_readers_reviewed : sensitiveReaderBodies =
    [("e_cert_ext_invalid_der", 15379507351867889202), ("e_cert_sig_alg_not_match_tbs_sig_alg", 8933058133484231263),
     ("e_crl_empty_revoked_certificates", 4127868731037560474), ("e_crl_revoked_certificates_field_must_be_empty", 13303964325982800165),
     ("e_mp_ecdsa_signature_encoding_correct", 7808569742351512472)] := by decide +kernel

/-- nothing else derived from the signature or the whole certificate is read by any lint: no
    fingerprints, no validation state, no signature-checking methods -/
def forbiddenField (f : String) : Bool :=
  C05.startsWithK f "Certificate.Fingerprint" || C05.startsWithK f "Certificate.SPKISubjectFingerprint"
  || f == "Certificate.ValidationLevel" || f == "Certificate.validSignature"
  || C05.startsWithK f "Certificate.Check" || C05.startsWithK f "Certificate.Verify"

theorem no_signature_derived_reads : fieldNames.all (fun f => !forbiddenField f) = true := by
  have h : fieldNames.all (fun f =>
      !(C05.startsWithB f "Certificate.Fingerprint" || C05.startsWithB f "Certificate.SPKISubjectFingerprint"
        || f == "Certificate.ValidationLevel" || f == "Certificate.validSignature"
        || C05.startsWithB f "Certificate.Check" || C05.startsWithB f "Certificate.Verify")) = true := by decide +kernel
  refine List.all_eq_true.mpr fun f hf => ?_
  have := List.all_eq_true.mp h f hf
  simp only [Bool.not_eq_true', Bool.or_eq_false_iff] at this
  simp [forbiddenField, C05.startsWithK_eq_false, this]

theorem getElem?_of_fieldIdx {f : String} {i : Nat} (h : fieldIdx f = some i) : fieldNames[i]? = some f := by
  simp only [fieldIdx, Option.map_eq_some_iff] at h
  obtain ⟨⟨g, j⟩, hfind, rfl⟩ := h
  have hg : g = f := by simpa using List.find?_some hfind
  have := List.mem_of_find?_eq_some hfind
  rw [List.mem_zipIdx_iff_getElem?] at this
  simpa [hg] using this

/-- object methods called by lints: only the two memoised name parsers -/
theorem object_methods : (fieldNames.filter (fun f => f == "Certificate.GetParsedDNSNames" || f == "Certificate.GetParsedSubjectCommonName"
    || !(registrations.all (fun r => !(match fieldIdx f with | some i => r.objMethods.contains i | none => false))))) =
    ["Certificate.GetParsedDNSNames", "Certificate.GetParsedSubjectCommonName"] := by
  -- only the positions that some lint lists matter: look those up, instead of locating every field name in the list
  have hused : registrations.all (fun r => r.objMethods.all (fun i =>
      fieldNames[i]? == some "Certificate.GetParsedDNSNames" || fieldNames[i]? == some "Certificate.GetParsedSubjectCommonName")) = true := by
    decide +kernel
  have hfilter : fieldNames.filter (fun f => f == "Certificate.GetParsedDNSNames" || f == "Certificate.GetParsedSubjectCommonName") =
      ["Certificate.GetParsedDNSNames", "Certificate.GetParsedSubjectCommonName"] := by decide +kernel
  rw [← hfilter]
  refine List.filter_congr fun f _ => ?_
  cases hi : fieldIdx f with
  | none => simp
  | some i =>
    rw [Bool.or_eq_left_iff_imp]
    simp only [Bool.not_eq_true', List.all_eq_false, Bool.not_eq_false]
    rintro ⟨r, hr, hc⟩
    have := List.all_eq_true.mp (List.all_eq_true.mp hused r hr) i (by simpa using hc)
    simpa [getElem?_of_fieldIdx hi] using this

/-- no code on the linting path calls a signature-verifying function of the parser library -/
theorem no_signature_checks :
    lintPathCalls.all (fun c => !(C05.startsWithK c.2.2.2 "(*github.com/zmap/zcrypto/x509.Certificate).Check"
      || C05.startsWithK c.2.2.2 "(*github.com/zmap/zcrypto/x509.Certificate).Verify")) = true := by
  have h : lintPathCalls.all (fun c => !(C05.startsWithB c.2.2.2 "(*github.com/zmap/zcrypto/x509.Certificate).Check"
      || C05.startsWithB c.2.2.2 "(*github.com/zmap/zcrypto/x509.Certificate).Verify")) = true := by decide +kernel
  refine List.all_eq_true.mpr fun c hc => ?_
  have := List.all_eq_true.mp h c hc
  simp only [Bool.not_eq_true', Bool.or_eq_false_iff] at this
  simp [C05.startsWithK_eq_false, this]

/-- non-vacuity of `sig_independent`: a lint reading field 0 only, objects differing on field 1 -/
example : DependsOnly [0] (fun (o : Nat → Nat) (_ : Unit) => Exec.result (o 0) "") := by
  intro o o' _ h; simp [h 0 (by simp)]


/-! ## The one lint that walks `c.Raw` with cryptobyte is blind to the signature element

  `e_cert_sig_alg_not_match_tbs_sig_alg` is modelled (ZlModel/Der.lean: cryptobyte's DER element reader and
  the lint's walk; tied by the `der` correspondence). For a certificate — SEQUENCE { tbsCertificate,
  signatureAlgorithm, signatureValue } — its verdict is `compareAlg tbs alg`, whatever the third element is. -/
section RawWalk
open Zl.Der

/-- the reader accepts exactly what the encoder writes: element boundaries are where the header says -/
theorem der_reader_inverts_encoder (t : Nat) (c rest : Bytes) (ht : t % 32 ≠ 31) (hc : c.length + 6 < 4294967296) :
    readAny (tlv t c ++ rest) = some (t, c, rest) := by
  by_cases h : c.length < 128
  · simp [tlv, encLen, readAny, ht, h]
  · obtain ⟨ds, he, hne, h4, hlen, hmin⟩ := encLen_long (Nat.le_of_not_lt h) hc
    simp only [tlv, he, List.cons_append, List.append_assoc]
    exact readAny_long t ds c rest ht hne h4 hlen (Nat.le_of_not_lt h) hmin hc

theorem readASN1_tlv (t : Nat) (c rest : Bytes) (ht : t % 32 ≠ 31) (hc : c.length + 6 < 4294967296) :
    readASN1 t (tlv t c ++ rest) = some (c, rest) := by
  simp [readASN1, der_reader_inverts_encoder t c rest ht hc]

/-- the verdict on SEQUENCE { SEQUENCE tbs, SEQUENCE alg, anything } is `compareAlg tbs alg`: the third element
    (the signature BIT STRING in a certificate) is never read -/
theorem walk_tlv (tbs alg sig : Bytes)
    (h1 : tbs.length + 6 < 4294967296) (h2 : alg.length + 6 < 4294967296)
    (h3 : (tlv tagSeq tbs ++ (tlv tagSeq alg ++ sig)).length + 6 < 4294967296) :
    walk (tlv tagSeq (tlv tagSeq tbs ++ (tlv tagSeq alg ++ sig))) = compareAlg tbs alg := by
  have hs : tagSeq % 32 ≠ 31 := by decide
  have h := readASN1_tlv tagSeq _ [] hs h3
  rw [List.append_nil] at h
  simp only [walk, h, readASN1_tlv tagSeq _ _ hs h1, readASN1_tlv tagSeq _ _ hs h2]

theorem raw_walk_ignores_signature (tbs alg sig sig' : Bytes)
    (h1 : tbs.length + 6 < 4294967296) (h2 : alg.length + 6 < 4294967296)
    (h3 : (tlv tagSeq tbs ++ (tlv tagSeq alg ++ sig)).length + 6 < 4294967296)
    (h3' : (tlv tagSeq tbs ++ (tlv tagSeq alg ++ sig')).length + 6 < 4294967296) :
    walk (tlv tagSeq (tlv tagSeq tbs ++ (tlv tagSeq alg ++ sig))) = walk (tlv tagSeq (tlv tagSeq tbs ++ (tlv tagSeq alg ++ sig'))) := by
  rw [walk_tlv tbs alg sig h1 h2 h3, walk_tlv tbs alg sig' h1 h2 h3']

/-- not vacuous: a matching and a mismatching algorithm, both with some signature bytes behind them -/
example : walk (tlv tagSeq (tlv tagSeq (tlv tagInt [1] ++ tlv tagSeq [6, 1, 42]) ++ (tlv tagSeq [6, 1, 42] ++ [3, 2, 0, 255]))) = .pass := by decide
example : walk (tlv tagSeq (tlv tagSeq (tlv tagInt [1] ++ tlv tagSeq [6, 1, 42]) ++ (tlv tagSeq [6, 1, 43] ++ [3, 2, 0, 255]))) = .error := by decide
/-- non-minimal and indefinite lengths are refused, as cryptobyte does -/
example : readAny [0x30, 0x81, 0x01, 0x00] = none ∧ readAny [0x30, 0x80, 0x00, 0x00] = none ∧ readAny [0x1f, 0x00] = none
    ∧ readAny [0x30, 0x82, 0x00, 0x80] = none := by decide

end RawWalk

end Zl.C09
