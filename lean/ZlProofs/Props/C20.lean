/-
  C20 — Duplicated rules never contradict each other.

  What is proved: (1) two first-match scans over mirrored lists agree whenever their per-element
  tests agree on corresponding elements (so agreement of a SAN/IAN or subject/issuer pair reduces to
  agreement on single elements); (2) a stricter threshold companion fires whenever the error-level
  limit is exceeded; (3) the pair table of the specification refers to lints that exist.
  Partial: per-element agreement of two Go rule bodies is NOT provable without translating the bodies;
  it is checked by the pair search on single atoms (every GeneralName kind and content class) with the
  real lints as oracles, then on lists, on mirrored DNs, on the DSA / AIA pairs over the corpus and on
  threshold sweeps.
-/
import ZlProofs.Lemmas.Names
import ZlProofs.Lemmas.Thresholds
import ZlModel.Generated.Registry
namespace Zl.C20
open Zl Generated

/-- **Mirror agreement**: if the element tests of the two copies agree on corresponding elements
    (`σ` maps an entry of the first field to the entry of the mirrored field), the two scans agree
    on mirrored lists — whatever the lists are. -/
theorem mirror_agree {α β : Type} (fA : α → Option Status) (fB : β → Option Status) (σ : α → β) (dflt : Status)
    (hel : ∀ x, fA x = fB (σ x)) (l : List α) : scan fA dflt l = scan fB dflt (l.map σ) := by
  induction l with
  | nil => rfl
  | cons x xs ih =>
    simp only [List.map_cons, scan]
    rw [← hel x]
    cases fA x with
    | some s => rfl
    | none => exact ih

/-- where the two copies deliberately carry different severities: finding ⇔ finding -/
theorem mirror_agree_finding {α β : Type} (fA : α → Option Status) (fB : β → Option Status) (σ : α → β)
    (hel : ∀ x, (fA x).isSome = (fB (σ x)).isSome) (l : List α) :
    (l.any (fun x => (fA x).isSome)) = ((l.map σ).any (fun y => (fB y).isSome)) := by
  simp only [List.any_map, Function.comp_def, hel]

/-- **Threshold companions**: with a warning limit not above the error limit, exceeding the error
    limit implies exceeding the warning limit (398/397 days in seconds, 32768/64 characters). -/
theorem threshold_implies (kErr kWarn m : Nat) (hk : kWarn ≤ kErr) (h : m > kErr) : m > kWarn := by omega

theorem validity_398_implies_397 (seconds : Nat) (h : seconds > 398 * 86400) : seconds > 397 * 86400 :=
  threshold_implies _ _ _ (by decide) h

theorem name_length_implies (n : Nat) (h : n > 32768) : n > 64 := threshold_implies _ _ _ (by decide) h

/-- the specification's pair table -/
def pairs : List (String × String) :=
  [ ("e_ext_san_dns_not_ia5_string", "e_ext_ian_dns_not_ia5_string"), ("e_ext_san_empty_name", "e_ext_ian_empty_name"),
    ("e_ext_san_no_entries", "e_ext_ian_no_entries"), ("e_ext_san_rfc822_format_invalid", "e_ext_ian_rfc822_format_invalid"),
    ("e_ext_san_space_dns_name", "e_ext_ian_space_dns_name"), ("e_ext_san_uri_format_invalid", "e_ext_ian_uri_format_invalid"),
    ("e_ext_san_uri_host_not_fqdn_or_ip", "e_ext_ian_uri_host_not_fqdn_or_ip"), ("e_ext_san_uri_not_ia5", "e_ext_ian_uri_not_ia5"),
    ("e_ext_san_uri_relative", "e_ext_ian_uri_relative"),
    ("e_rfc_dnsname_empty_label", "e_dnsname_empty_label"), ("e_rfc_dnsname_hyphen_in_sld", "e_dnsname_hyphen_in_sld"),
    ("e_rfc_dnsname_label_too_long", "e_dnsname_label_too_long"), ("e_rfc_dnsname_underscore_in_sld", "e_dnsname_underscore_in_sld"),
    ("w_rfc_dnsname_underscore_in_trd", "w_dnsname_underscore_in_trd"),
    ("w_subject_dn_leading_whitespace", "w_issuer_dn_leading_whitespace"), ("w_subject_dn_trailing_whitespace", "w_issuer_dn_trailing_whitespace"),
    ("n_multiple_subject_rdn", "w_multiple_issuer_rdn"), ("e_subject_dn_country_not_printable_string", "e_issuer_dn_country_not_printable_string"),
    ("e_prohibit_dsa_usage", "e_br_prohibit_dsa_usage"), ("w_sub_cert_aia_contains_internal_names", "w_smime_aia_contains_internal_names"),
    ("e_tls_server_cert_valid_time_longer_than_398_days", "w_tls_server_cert_valid_time_longer_than_397_days"),
    ("e_subject_given_name_max_length", "w_subject_given_name_recommended_max_length"),
    ("e_subject_surname_max_length", "w_subject_surname_recommended_max_length") ]

/-- every lint named in the pair table is registered, as a certificate lint -/
theorem pairs_registered :
    pairs.all (fun p => runtimeLints.any (fun l => l.name == p.1 && l.kind == 0) && runtimeLints.any (fun l => l.name == p.2 && l.kind == 0)) = true := by
  decide +kernel

/-- the extracted verdict sets of the two members of a mirror pair with the same prefix coincide
    (a copy that gained or lost a return status has drifted) -/
def statusesOf (n : String) : List Int := match registrations.find? (fun r => r.name == n) with | some r => r.statuses | none => []

theorem mirror_status_sets_agree :
    (pairs.take 18).all (fun p => p.1.toList.head? != p.2.toList.head? || statusesOf p.1 == statusesOf p.2) = true := by decide +kernel

/-- non-vacuity -/
example : scan (fun (n : Nat) => if n == 0 then some Status.error else none) Status.pass [1, 0, 2]
    = scan (fun (s : String) => if s == "0" then some Status.error else none) Status.pass ([1, 0, 2].map toString) := by decide


/-! ## Modelled pairs: per-element agreement *proved*, not searched

  For the four pairs below both rule bodies are modelled (ZlModel/Names.lean, tied to the real lints by the
  `names` correspondence), so their agreement is a theorem instead of a search result. -/
section ModelledPairs
open Zl.Names

/-- a copy that judges the subject CN before the SAN names, against the copy that judges the SAN names alone: a CN
    that is not judged, or is one of the names, adds nothing -/
theorem cn_first_agree (bad : Bytes → Bool) (v : View) (h : v.cn = [] ∨ v.cnIsIP = true ∨ v.cn ∈ v.dns) :
    (if cnJudged v && bad v.cn then Status.error else anyFinding bad Status.error v.dns)
      = anyFinding bad Status.error v.dns := by
  rcases h with h | h | h
  · simp [cnJudged, h]
  · simp [cnJudged, h]
  · by_cases hl : bad v.cn = true
    · have : v.dns.any bad = true := List.any_eq_true.mpr ⟨v.cn, h, hl⟩
      simp [anyFinding, this]
    · simp [hl]

theorem cn_first_implies (bad : Bytes → Bool) (v : View) (h : anyFinding bad Status.error v.dns = Status.error) :
    (if cnJudged v && bad v.cn then Status.error else anyFinding bad Status.error v.dns) = Status.error := by
  split
  · rfl
  · exact h

/-- RFC / CABF "label too long": on the same content — a subject CN that is empty, an IP address, or one of
    the SAN names — the two copies return the same status, for **every** name list. -/
theorem label_pair_agree (v : View) (h : v.cn = [] ∨ v.cnIsIP = true ∨ v.cn ∈ v.dns) :
    brLabelTooLong v = rfcLabelTooLong v := cn_first_agree labelTooLong v h

/-- …and whatever the CN is, the CABF copy is at least as strict as the RFC copy (the extra requirement on the
    CN can add a finding, never remove one) -/
theorem label_pair_implies (v : View) (h : rfcLabelTooLong v = Status.error) : brLabelTooLong v = Status.error :=
  cn_first_implies labelTooLong v h

theorem empty_label_pair_agree (v : View) (h : v.cn = [] ∨ v.cnIsIP = true ∨ v.cn ∈ v.dns) :
    brEmptyLabel v = rfcEmptyLabel v := cn_first_agree hasEmptyLabel v h

theorem empty_label_pair_implies (v : View) (h : rfcEmptyLabel v = Status.error) : brEmptyLabel v = Status.error :=
  cn_first_implies hasEmptyLabel v h

/-- SAN / IAN: the same names in both extensions give the same verdicts -/
theorem space_pair_agree (v : View) (h : v.ianDns = v.dns) : ianSpaceDNS v = sanSpaceDNS v := by
  unfold ianSpaceDNS sanSpaceDNS; rw [h]

theorem uri_ia5_pair_agree (v : View) (h : v.ianUris = v.uris) : ianUriNotIA5 v = sanUriNotIA5 v := by
  unfold ianUriNotIA5 sanUriNotIA5; rw [h]

/-- what "label too long" means: some dot-free stretch between dots (or the ends) exceeds 63 octets; the labels
    are exactly the pieces that join back to the name -/
theorem labelTooLong_iff (d : Bytes) :
    labelTooLong d = true ↔ ∃ l ∈ splitDot d, 63 < l.length ∧ 46 ∉ l := by
  simp only [labelTooLong, List.any_eq_true, decide_eq_true_eq]
  exact exists_congr fun l => and_congr_right fun hl => (and_iff_left (splitDot_no_dot d l hl)).symm

theorem labels_rejoin (d : Bytes) : joinDot (splitDot d) = d := by
  fun_induction splitDot d with
  | case1 => rfl
  | case2 _ cs h => exact absurd h (splitDot_ne_nil cs)
  | case3 c _ _ _ h hc ih =>
    rw [eq_of_beq hc, ← ih, h]
    rfl
  | case4 c _ l ls h hc ih =>
    rw [← ih, h]
    cases ls <;> rfl

/-- boundary: 63 octets pass, 64 do not — whatever the octets are (ASCII or not) -/
example : labelTooLong (List.replicate 63 97 ++ [46, 99]) = false := by decide
example : labelTooLong (List.replicate 64 97 ++ [46, 99]) = true := by decide
example : labelTooLong (List.replicate 32 195 ++ List.replicate 32 169) = true := by decide
example : hasEmptyLabel [97, 46, 46, 98] = true ∧ hasEmptyLabel [97, 46, 98] = false ∧ hasEmptyLabel [] = true := by decide

end ModelledPairs


/-! ## Modelled threshold companions -/
section ModelledThresholds
open Zl.Thresholds

/-- **398 / 397 days, as the two rule bodies compute it** (inclusive validity, Go's saturating duration): whenever
    the error-level lint fires the warning-level companion fires, for every pair of instants. -/
theorem validity_pair_implies (nb na : Int) (h : validity398 nb na = Status.error) : validity397 nb na = Status.warn := by
  unfold validity398 at h
  split at h
  · next hgt => exact if_pos (Int.lt_trans (by decide) hgt)
  · cases h

/-- the limit is inclusive of both end instants: notAfter = notBefore + 398 days − 1 s passes, one second more errors -/
example : validity398 0 (398 * appleDayLength - second) = Status.pass ∧ validity398 0 (398 * appleDayLength) = Status.error := by decide
example : validity397 0 (397 * appleDayLength - second) = Status.pass ∧ validity397 0 (397 * appleDayLength) = Status.warn := by decide
/-- beyond the range of a Go Duration (≈ 292 years) the difference saturates and still exceeds both limits -/
example : validity398 0 (300 * 365 * appleDayLength) = Status.error := by decide

/-- **given name / surname 32768 / 64 characters, as the rule bodies count them** (utf8.RuneCountInString) -/
theorem name_length_pair_implies (names : List (List Nat)) (h : nameTooLong 32768 Status.error names = Status.error) :
    nameTooLong 64 Status.warn names = Status.warn := by
  simp only [nameTooLong, anyFinding] at h ⊢
  split at h
  · next hany =>
    obtain ⟨n, hn, hgt⟩ := List.any_eq_true.mp hany
    rw [if_pos (List.any_eq_true.mpr ⟨n, hn, by simp only [decide_eq_true_eq] at hgt ⊢; omega⟩)]
  · cases h

/-- characters are never more than octets, and at most four octets make one character — so a limit in
    characters and the same limit in octets differ exactly on non-ASCII content (the C20 drift between a copy
    that counts runes and a copy that counts bytes) -/
theorem runes_le_octets (bs : List Nat) : runeCount bs ≤ bs.length := (runeCountFuel_bounds _ bs).1
theorem octets_le_four_runes (bs : List Nat) : bs.length ≤ 4 * runeCount bs := (runeCountFuel_bounds _ bs).2 (Nat.le_refl _)
theorem runes_eq_octets_ascii (bs : List Nat) (h : ∀ b ∈ bs, b < 128) : runeCount bs = bs.length :=
  runeCountFuel_ascii _ bs h (Nat.le_refl _)

/-- invalid and truncated sequences count one rune per byte; valid ones one per sequence -/
example : runeCount [0xC3, 0xA9] = 1 ∧ runeCount [0xC3] = 1 ∧ runeCount [0xFF, 0xFF] = 2 ∧ runeCount [0xE2, 0x82, 0xAC] = 1
    ∧ runeCount [0xE2, 0x82] = 2 ∧ runeCount [0xED, 0xA0, 0x80] = 3 ∧ runeCount [0xF0, 0x9F, 0x98, 0x80] = 1 := by decide

end ModelledThresholds

end Zl.C20
