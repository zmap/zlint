/-
  C18 — TLD validity follows the delegation table exactly.
-/
import ZlProofs.Lemmas.TldRow
import ZlProofs.Lemmas.Framework
import ZlProofs.Lemmas.Registry
namespace Zl.C18
open Zl Generated

/-! The row theorems below give every row a kernel evaluation of its own (`and_intros <;> decide +kernel`, one auxiliary
    declaration per row). One evaluation over many rows is far dearer than the sum: the kernel's reduction cache hashes a
    numeral by its low-order word, so NUL-padded keys of equal length lead it through the same look-alike terms, and what
    a row costs grows with the number of such rows already seen (measured: 45k heartbeats for any row alone, 340k per row
    in a run of fifty `xn--` rows; the same numbers computed instead of written out show no such effect). The table comes
    in eight parts of up to four chunks; a chunk not named here would still be evaluated, as one run. -/

theorem part0_ok : tldPart_0.all rowOK = true := by
  simp only [tldPart_0, tldPart_0_0, tldPart_0_1, tldPart_0_2, tldPart_0_3,
    List.all_append, List.all_cons, List.all_nil, Bool.and_true, Bool.and_eq_true]
  and_intros <;> decide +kernel

theorem part1_ok : tldPart_1.all rowOK = true := by
  simp only [tldPart_1, tldPart_1_0, tldPart_1_1, tldPart_1_2, tldPart_1_3,
    List.all_append, List.all_cons, List.all_nil, Bool.and_true, Bool.and_eq_true]
  and_intros <;> decide +kernel

theorem part2_ok : tldPart_2.all rowOK = true := by
  simp only [tldPart_2, tldPart_2_0, tldPart_2_1, tldPart_2_2, tldPart_2_3,
    List.all_append, List.all_cons, List.all_nil, Bool.and_true, Bool.and_eq_true]
  and_intros <;> decide +kernel

theorem part3_ok : tldPart_3.all rowOK = true := by
  simp only [tldPart_3, tldPart_3_0, tldPart_3_1, tldPart_3_2, tldPart_3_3,
    List.all_append, List.all_cons, List.all_nil, Bool.and_true, Bool.and_eq_true]
  and_intros <;> decide +kernel

theorem part4_ok : tldPart_4.all rowOK = true := by
  simp only [tldPart_4, tldPart_4_0, tldPart_4_1, tldPart_4_2, tldPart_4_3,
    List.all_append, List.all_cons, List.all_nil, Bool.and_true, Bool.and_eq_true]
  and_intros <;> decide +kernel

theorem part5_ok : tldPart_5.all rowOK = true := by
  simp only [tldPart_5, tldPart_5_0, tldPart_5_1, tldPart_5_2, tldPart_5_3,
    List.all_append, List.all_cons, List.all_nil, Bool.and_true, Bool.and_eq_true]
  and_intros <;> decide +kernel

theorem part6_ok : tldPart_6.all rowOK = true := by
  simp only [tldPart_6, tldPart_6_0, tldPart_6_1, tldPart_6_2, tldPart_6_3,
    List.all_append, List.all_cons, List.all_nil, Bool.and_true, Bool.and_eq_true]
  and_intros <;> decide +kernel

theorem part7_ok : tldPart_7.all rowOK = true := by
  simp only [tldPart_7, tldPart_7_0, tldPart_7_1, tldPart_7_2, tldPart_7_3,
    List.all_append, List.all_cons, List.all_nil, Bool.and_true, Bool.and_eq_true]
  and_intros <;> decide +kernel

theorem keys_sorted : strictSorted (tld.map (·.key)) = true := by
  simp only [tld, tldPart_0, tldPart_1, tldPart_2, tldPart_3, tldPart_4, tldPart_5, tldPart_6, tldPart_7,
    List.map_append, List.append_assoc]
  repeat with_reducible refine strictSorted_append _ _ ?_ ?_
  all_goals decide +kernel

/-- **Every table entry is well-formed**, keys are strictly sorted (hence unique); the literal in the source, the
    emitted table and the run-time map have the same number of entries. -/
theorem table_wellformed : tld.all rowOK = true ∧ strictSorted (tld.map (·.key)) = true
    ∧ tld.length = tldSourceLen ∧ tldSourceLen = tldRuntimeLen := by
  refine ⟨?_, keys_sorted, by decide +kernel, by decide +kernel⟩
  simp only [tld, List.all_append, Bool.and_eq_true]
  exact ⟨part0_ok, part1_ok, part2_ok, part3_ok, part4_ok, part5_ok, part6_ok, part7_ok⟩

theorem keys_nodup : (tld.map (·.key)).Nodup := strictSorted_nodup _ table_wellformed.2.1

/-- the "parse error ⇒ valid for ever" branch of `Valid` is unreachable for table entries -/
theorem valid_no_silent_error (r : TldRow) (hr : r ∈ tld) :
    (parseDate (bytesOfKey r.deleg)).isSome = true
    ∧ ((bytesOfKey r.rem).isEmpty = true ∨ (parseDate (bytesOfKey r.rem)).isSome = true) := by
  have h := List.all_eq_true.mp table_wellformed.1 r hr
  simp only [rowOK, Bool.and_eq_true, Bool.or_eq_true] at h
  exact ⟨h.1.2, h.2.imp_right And.left⟩

theorem not_before_iff (a b : Time) : Time.before a b = false ↔ Time.le b a := by
  rw [← Time.onOrAfter_iff, Time.onOrAfter, Bool.not_eq_true']

/-- `Valid` decides the closed interval [delegation, removal] on instants (removal optional) -/
theorem periodValid_iff (deleg rem : List Nat) (t : Time) :
    periodValid deleg rem t = true ↔
      Time.le (parseDateOrZero deleg) t ∧ (rem = [] ∨ Time.le t (parseDateOrZero rem)) := by
  rw [← not_before_iff, ← not_before_iff]
  unfold periodValid Time.after
  cases Time.before t (parseDateOrZero deleg) <;> cases rem <;> simp

/-- the label under which a domain is looked up -/
def lookupKey (domain : List Nat) : Option Nat :=
  let l := lastLabelLower domain
  if l.length ≥ tldWidth || l.contains 0 then none else some (padKeyOfBytes tldWidth l)

/-- **A DNS name has a valid TLD at time t iff** its right-most label, lower-cased, is a table key, t is
    not before that entry's delegation instant and, when a removal date is recorded, not after it. -/
theorem hasValidTLD_spec (domain : List Nat) (t : Time) :
    hasValidTLD domain t = true ↔
      ∃ r ∈ tld, lookupKey domain = some r.key
        ∧ Time.le (parseDateOrZero (bytesOfKey r.deleg)) t
        ∧ (bytesOfKey r.rem = [] ∨ Time.le t (parseDateOrZero (bytesOfKey r.rem))) := by
  -- keys are unique, so the row the lookup finds is the only one under the domain's key
  have hl (r : TldRow) : tldLookup (lastLabelLower domain) = some r ↔ r ∈ tld ∧ lookupKey domain = some r.key := by
    simp only [tldLookup, lookupKey]
    split <;> simp [find?_eq_some_of_nodup keys_nodup, eq_comm (a := r.key)]
  have h : hasValidTLD domain t = true ↔ ∃ r, tldLookup (lastLabelLower domain) = some r
      ∧ periodValid (bytesOfKey r.deleg) (bytesOfKey r.rem) t = true := by
    unfold hasValidTLD
    split <;> simp [*]
  simp only [h, hl, periodValid_iff, and_assoc]

/-- **"Was ever a TLD" ignores dates.** -/
theorem isInTLDMap_spec (label : List Nat) :
    isInTLDMap label = true ↔
      ((label.map lowerByte).length < tldWidth ∧ (label.map lowerByte).contains 0 = false
        ∧ ∃ r ∈ tld, r.key = padKeyOfBytes tldWidth (label.map lowerByte)) := by
  simp [isInTLDMap, tldLookup, apply_ite Option.isSome, and_assoc]

/-- **The TLD lint** reports an error for a subscriber certificate exactly when its non-IP common
    name or one of its DNS names fails the test at notBefore. -/
theorem tld_lint_spec (cn : List Nat) (cnIsIP : Bool) (dns : List (List Nat)) (nb : Time) :
    tldLint cn cnIsIP dns nb = Status.error ↔
      (cn ≠ [] ∧ cnIsIP = false ∧ hasValidTLD cn nb = false) ∨ ∃ d ∈ dns, hasValidTLD d nb = false := by
  have h (c₁ c₂ : Prop) [Decidable c₁] [Decidable c₂] :
      (if c₁ then Status.error else if c₂ then Status.error else Status.pass) = Status.error ↔ c₁ ∨ c₂ := by
    have : Status.pass ≠ Status.error := by decide
    by_cases c₁ <;> by_cases c₂ <;> simp [*]
  simp [tldLint, h, and_assoc]

/-- the verdict does not depend on the order of the DNS names (a C17 instance): the lint reads them
    through `any` only -/
theorem tld_lint_perm (cn : List Nat) (cnIsIP : Bool) (dns dns' : List (List Nat)) (nb : Time) (hp : dns.Perm dns') :
    tldLint cn cnIsIP dns nb = tldLint cn cnIsIP dns' nb := by
  unfold tldLint
  rw [hp.any_eq]

/-- non-vacuity: the table is large and the spec's right-hand side is satisfiable ("com" in 2024) -/
example : tld.length > 1500 ∧ hasValidTLD [119, 119, 119, 46, 99, 111, 109] ⟨1717200000, 0⟩ = true
    ∧ hasValidTLD [119, 46, 67, 79, 77] ⟨1717200000, 0⟩ = true ∧ hasValidTLD [99, 111, 109, 46] ⟨1717200000, 0⟩ = false := by
  refine ⟨by decide +kernel, by decide +kernel, by decide +kernel, Bool.eq_false_iff.mpr fun h => ?_⟩
  -- "com." ends in the empty label, whose key is 0; no row has key 0
  obtain ⟨r, hr, hk, -⟩ := (hasValidTLD_spec _ _).mp h
  have hr' := List.all_eq_true.mp table_wellformed.1 r hr
  have h0 : lookupKey [99, 111, 109, 46] = some 0 := by decide
  simp [rowOK, ← Option.some.inj (h0.symm.trans hk)] at hr'

end Zl.C18
