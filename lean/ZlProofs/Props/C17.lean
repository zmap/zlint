/-
  C17 — Verdicts do not depend on the order of SAN entries or of extensions.

  (1) Order theorems for the scan shapes: a first-match scan is permutation-invariant iff all its
  in-loop verdicts coincide; any-finding and multiset shapes always are. (2) Which lints return more
  than one distinct verdict from inside a loop over a name list is regenerated from the source (SSA:
  statuses of the returns that leave a loop); by (1) exactly those are order-dependent, and they must
  be the committed known findings — no more (a new one fails), no fewer (a stale entry fails).

  Partial: that a lint's loop has the first-match shape is read off the SSA loop structure by the
  extractor and validated by the permutation search on the real lints; it is not derived in Lean from
  the Go body. Extension order: lints look extensions up by OID through a map (util.GetExtFromCert /
  IsExtInCert); the two lints that range over c.Extensions themselves are reviewed below.
-/
import ZlModel.Names
import ZlModel.Scan
import ZlModel.Generated.Registry
import ZlModel.Generated.PanicSites
namespace Zl.C17
open Zl Generated

/-! ### (1) order theorems -/

theorem scan_eq_of_uniform {α : Type} (f : α → Option Status) (dflt s : Status)
    (hu : ∀ x t, f x = some t → t = s) (l : List α) :
    scan f dflt l = if l.any (fun x => (f x).isSome) then s else dflt := by
  induction l with
  | nil => simp [scan]
  | cons x xs ih =>
    unfold scan
    cases hx : f x with
    | none => simp [hx, ih]
    | some t => simp [hx, hu x t hx]

/-- **A first-match scan whose in-loop verdicts all coincide does not depend on the order.** -/
theorem scan_perm {α : Type} (f : α → Option Status) (dflt : Status)
    (hu : ∀ x y s t, f x = some s → f y = some t → s = t) {l l' : List α} (hp : l.Perm l') :
    scan f dflt l = scan f dflt l' := by
  -- either nothing has a verdict, or every verdict is the one verdict there is
  by_cases h : ∃ x s, f x = some s
  · obtain ⟨x, s, hs⟩ := h
    have hu' : ∀ y t, f y = some t → t = s := fun y t hy => hu y x t s hy hs
    rw [scan_eq_of_uniform f dflt s hu', scan_eq_of_uniform f dflt s hu', hp.any_eq]
  · have hu' : ∀ y t, f y = some t → t = dflt := fun y t hy => absurd ⟨y, t, hy⟩ h
    rw [scan_eq_of_uniform f dflt dflt hu', scan_eq_of_uniform f dflt dflt hu', ite_self, ite_self]

/-- **Converse by witness**: two elements with different in-loop verdicts make the scan depend on their order. -/
theorem scan_not_perm {α : Type} (f : α → Option Status) (dflt : Status) (x y : α) (s t : Status)
    (hx : f x = some s) (hy : f y = some t) (hne : s ≠ t) :
    scan f dflt [x, y] ≠ scan f dflt [y, x] := by
  simp [scan, hx, hy, hne]

/-- any-finding shapes never depend on the order -/
theorem anyFinding_perm {α : Type} (bad : α → Bool) (finding : Status) {l l' : List α} (hp : l.Perm l') :
    anyFinding bad finding l = anyFinding bad finding l' := by
  rw [anyFinding, hp.any_eq, anyFinding]

/-- duplicate detection is a function of the multiset -/
theorem hasDuplicate_perm {α : Type} [DecidableEq α] {l l' : List α} (hp : l.Perm l') : hasDuplicate l = hasDuplicate l' := by
  simp only [hasDuplicate, hp.count_eq, hp.any_eq]

/-! ### (2) the regenerated in-loop verdict sets -/

def fieldIdx (name : String) : Option Nat := (fieldNames.zipIdx.find? (fun p => p.1 == name)).map (·.2)

/-- the order-carrying name lists of a certificate -/
def nameListFields : List String :=
  [ "Certificate.DNSNames", "Certificate.IPAddresses", "Certificate.URIs", "Certificate.EmailAddresses", "Certificate.OtherNames",
    "Certificate.DirectoryNames", "Certificate.EDIPartyNames", "Certificate.RegisteredIDs", "Certificate.GetParsedDNSNames",
    "Certificate.IANDNSNames", "Certificate.IANURIs", "Certificate.IANEmailAddresses" ]

def nameListIdx : List Nat := nameListFields.filterMap fieldIdx

def readsNameList (r : RegInfo) : Bool := r.reads.any (fun i => nameListIdx.contains i) || r.objMethods.any (fun i => nameListIdx.contains i)

def distinctVerdicts : List Int → List Int
  | [] => []
  | a :: rest => if rest.contains a then distinctVerdicts rest else a :: distinctVerdicts rest

/-- loops that matter for SAN order: loops attributed to a name-list field, and unattributed loops
    ("loop@n") of lints that read a name list -/
def loopOverNames (r : RegInfo) (fld : Nat) : Bool :=
  nameListIdx.contains fld || (readsNameList r && match fieldNames[fld]? with
    | some n => n.toList.take 5 == "loop@".toList
    | none => false)

/-- a lint that returns two different verdicts from inside a loop over a name list: by
    `scan_not_perm` its result depends on the order of the list -/
def orderSensitive (r : RegInfo) : Bool :=
  r.loopStatuses.any (fun p => loopOverNames r p.1 && (distinctVerdicts p.2).length ≥ 2)

/-- the analysis and the committed known findings name the same lints; `class_table_total` and
    `known_findings_not_stale` are the two halves of this one evaluation -/
theorem orderSensitive_iff_known : registrations.all (fun r => orderSensitive r == r.knownOrder) = true := by decide +kernel

/-- **Every lint in the tree that reads a name list returns at most one distinct verdict from inside
    its loops** — hence, by `scan_perm`, does not depend on the order — **except exactly the committed
    known findings.** -/
theorem class_table_total : registrations.all (fun r => !orderSensitive r || r.knownOrder) = true :=
  List.all_eq_true.mpr fun r hr => by simp [eq_of_beq (List.all_eq_true.mp orderSensitive_iff_known r hr)]

/-! ### loop-carried state (F13)

A loop whose iterations look at their own element only cannot care about the order of the list. What can make a rule
order-sensitive is a value that survives from one iteration to the next. The extractor lists every such value (header
φ-nodes and stores through variables declared outside the loop) in every function reachable from a lint, with the way it
is updated; everything that is not a flag (one constant), a counter or a collected list must be in the committed review
for the present text of its function. -/

/-- **No unreviewed order-carrying state in any loop reachable from a lint.** -/
theorem loop_state_reviewed :
    Generated.loopState.all (fun s => s.2.2 != 3 || Generated.loopStateReviewed.contains (s.1, s.2.1)) = true := by decide +kernel

/-- the review holds nothing stale -/
theorem loop_state_review_not_stale :
    Generated.loopStateReviewed.all (fun r => Generated.loopState.any (fun s => s.1 == r.1 && s.2.1 == r.2 && s.2.2 == 3)) = true := by decide +kernel

/-- the census sees loops (the statement is not about the empty list) -/
theorem loop_state_nonempty : decide (30 < Generated.loopState.length) = true := by decide +kernel

/-- the known-findings list holds nothing stale -/
theorem known_findings_not_stale : registrations.all (fun r => !r.knownOrder || orderSensitive r) = true :=
  List.all_eq_true.mpr fun r hr => by simp [eq_of_beq (List.all_eq_true.mp orderSensitive_iff_known r hr)]

/-- lints that range over `c.Extensions` themselves (all others reach extensions through the OID-keyed
    map): reviewed — each looks for the single extension with a given OID, so without duplicated
    extensions the position of that extension does not matter -/
def reviewedExtensionRangers : List String :=
  [ "e_aia_must_contain_permitted_access_method",   -- finds the AIA extension by OID
    "e_crlissuer_must_not_be_present_in_cdp",        -- finds the CRL distribution points extension by OID
    "e_cabf_org_identifier_psd_vat_has_state",       -- finds the CABF organization identifier extension by OID
    "e_empty_sct_list",                              -- finds the SCT list extension by OID
    "e_cert_extensions_version_not_3",               -- len(c.Extensions) only
    "e_ext_duplicate_extension" ]                    -- builds the set of OIDs (a function of the multiset)

def extIdx : Option Nat := fieldIdx "Certificate.Extensions"

theorem extension_rangers_reviewed :
    (registrations.filter (fun r => match extIdx with | some i => r.reads.contains i | none => false)).all
      (fun r => reviewedExtensionRangers.contains r.name) = true := by decide +kernel

/-- non-vacuity: the witness of `scan_not_perm` for the NA-then-finding shape -/
example : scan (fun (n : Nat) => if n == 0 then some Status.na else if n == 1 then some Status.warn else none) Status.pass [0, 1]
    ≠ scan (fun (n : Nat) => if n == 0 then some Status.na else if n == 1 then some Status.warn else none) Status.pass [1, 0] := by decide


/-! ## Modelled lints: order independence proved for the rule body itself -/
section ModelledLints
open Zl.Names

/-- the fourteen modelled name lints (ZlModel/Names.lean) return the same verdicts on every permutation of the
    SAN / IAN name lists -/
theorem names_verdicts_perm (v v' : View) (hcn : v'.cn = v.cn) (hip : v'.cnIsIP = v.cnIsIP)
    (hd : v.dns.Perm v'.dns) (hu : v.uris.Perm v'.uris) (hid : v.ianDns.Perm v'.ianDns) (hiu : v.ianUris.Perm v'.ianUris) :
    verdicts v = verdicts v' := by
  simp only [verdicts, rfcLabelTooLong, brLabelTooLong, rfcEmptyLabel, brEmptyLabel, sanSpaceDNS, ianSpaceDNS,
    sanUriNotIA5, ianUriNotIA5, wildcardOnlyLeft, leftLabelWildcard, underscoreInDNS, sanNullChar, sanStartsWithPeriod,
    sanWildcardNotFirst, cnJudged, hcn, hip, anyFinding_perm _ _ hd, anyFinding_perm _ _ hu, anyFinding_perm _ _ hid,
    anyFinding_perm _ _ hiu]

/-- `e_san_wildcard_not_first` and `e_dnsname_wildcard_only_in_left_label` / `…left_label_wildcard_correct` read the
    same names differently; what each means, stated outright -/
theorem wildcardNotFirst_iff (d : Bytes) : wildcardNotFirst d = true ↔ 42 ∈ d.drop 1 := by
  unfold wildcardNotFirst; simp

theorem startsWithPeriod_iff (d : Bytes) : startsWithPeriod d = true ↔ ∃ rest, d = 46 :: rest := by
  cases d <;> simp [startsWithPeriod]

end ModelledLints

end Zl.C17
