/-
  C14 — JSON output is faithful and reversible.
-/
import ZlProofs.Lemmas.JsonString
import ZlModel.Codec
import ZlModel.Generated.Tables
import ZlModel.Generated.Registry
namespace Zl.C14
open Zl Generated

abbrev table := labelToStatus statusString statusStringDefault statusLabelTable

/-- the eight statuses 0..7 are exactly the ones with a label -/
theorem defined_statuses : statusString.map (·.1) = [0, 1, 2, 3, 4, 5, 6, 7]
    ∧ (statusConsts.map (·.2)) = [0, 1, 2, 3, 4, 5, 6, 7] := by decide +kernel

/-- each defined status has its own distinct, non-empty label -/
theorem labels_injective : (statusString.map (·.2)).Nodup ∧ statusString.all (fun p => p.2 != "") = true := by decide +kernel

/-- the labels are the documented, stable ones -/
theorem labels_stable : statusString = [(0, "reserved"), (1, "NA"), (2, "NE"), (3, "pass"), (4, "info"), (5, "warn"), (6, "error"), (7, "fatal")] := by decide +kernel

/-- the decode table maps every label back to its own status and has nothing else in it -/
theorem table_exact : table = [("reserved", 0), ("NA", 1), ("NE", 2), ("pass", 3), ("info", 4), ("warn", 5), ("error", 6), ("fatal", 7)] := by decide +kernel

/-- **decode ∘ encode = id** on all eight statuses (with the JSON quotes) -/
theorem status_roundtrip : [0, 1, 2, 3, 4, 5, 6, 7].all (fun s => decodeStatus table (encodeStatus statusString statusStringDefault s) == some s) = true := by decide +kernel

/-- no label contains a double quote, so the quote stripping in `UnmarshalJSON` cannot merge two labels -/
theorem labels_quote_free : statusString.all (fun p => p.2.toList.all (· != '"')) = true := by decide +kernel

/-- an out-of-range status is encoded as the default label, which does not decode (it is never silently
    turned into a defined status) -/
theorem out_of_range_not_decodable : decodeStatus table (encodeStatus statusString statusStringDefault 8) = none
    ∧ decodeStatus table (encodeStatus statusString statusStringDefault (-1)) = none := by decide +kernel

/-- **Unknown labels are rejected**: decoding succeeds only for (quote-stripped) table labels. -/
theorem unknown_label_rejected (lt : List (String × Int)) (data : String) :
    decodeStatus lt data = none ↔ ∀ p ∈ lt, p.1 ≠ stripQuotes data := by
  simp [decodeStatus]

theorem decode_some_is_label (lt : List (String × Int)) (data : String) (s : Int) (h : decodeStatus lt data = some s) :
    (stripQuotes data, s) ∈ lt := by
  obtain ⟨p, hp, rfl⟩ := Option.map_eq_some_iff.mp h
  have he : p.1 = stripQuotes data := by simpa using List.find?_some hp
  exact he ▸ List.mem_of_find?_eq_some hp

/-- **Result round trip (partial: the JSON string codec is abstracted as `sanitize`).** For every
    defined status and any details text, decoding the encoding gives back the status and the
    sanitised details; empty details stay empty. -/
theorem result_roundtrip_partial (sanitize : String → String) (status : Int) (details : String)
    (hs : status ∈ [0, 1, 2, 3, 4, 5, 6, 7]) :
    decodeResult table (encodeResult statusString statusStringDefault sanitize status details)
      = some (status, if details == "" then "" else sanitize details) := by
  have key : ∀ s ∈ [0, 1, 2, 3, 4, 5, 6, 7], decodeStatus table (statusLabel statusString statusStringDefault s) = some s := by decide +kernel
  unfold decodeResult encodeResult
  simp only [key status hs, Option.map_some]
  split <;> simp

/-- struct tags: results, version, timestamp and the four flags have distinct keys; a result's
    status is always written (no omitempty), details are omitted only when empty, metadata is not
    written into results -/
theorem resultset_tags :
    structResultSet = [("Version", "version"), ("Timestamp", "timestamp"), ("Results", "lints"), ("NoticesPresent", "notices_present"),
      ("WarningsPresent", "warnings_present"), ("ErrorsPresent", "errors_present"), ("FatalsPresent", "fatals_present")]
    ∧ structLintResult = [("Status", "result"), ("Details", "details,omitempty"), ("LintMetadata", "-")] := by decide +kernel

/-- listing lines carry name, description, citation and source; only the two dates are hidden -/
theorem metadata_tags :
    structLintMetadata = [("Name", "name,omitempty"), ("Description", "description,omitempty"), ("Citation", "citation,omitempty"),
      ("Source", "source"), ("EffectiveDate", "-"), ("IneffectiveDate", "-")] := by decide +kernel

/-- the listing has exactly one line per registered lint of every kind -/
theorem listing_one_line_per_lint {α Cfg : Type} (r : Registry α Cfg) :
    r.listing.length = r.cert.lints.length + r.ocsp.lints.length + r.crl.lints.length := by
  simp [Registry.listing, Nat.add_assoc]

/-- … and for the real registry that is the number of registered lints; every source that can occur in
    a line is accepted by the source decoder -/
theorem listing_real : runtimeJSONLines = runtimeLints.length
    ∧ runtimeLints.all (fun l => (decodeSource unmarshalCases l.source).isSome) = true := by decide +kernel


/-! ## The JSON string codec itself (discharges the `sanitize` hypothesis of `result_roundtrip_partial` for the model)

  `JsonString.quote` / `unquote` model encoding/json's `appendString` and scanner + `unquoteBytes` byte for byte
  (tied to the standard library by the `jsonstr` correspondence, ≈ 250 k strings and literals in the thorough tier). -/
section StringCodec
open Zl.JsonString Zl.Thresholds

/-- **Details survive a JSON round trip exactly, up to U+FFFD for bytes that are not UTF-8**: for every byte string,
    with HTML escaping (json.Marshal, the result output) or without (the lint listing's encoder). -/
theorem details_roundtrip (html : Bool) (details : Bytes) : unquote (quote html details) = some (sanitize details) :=
  roundtrip_body html details.length details _ (Nat.le_succ _)

/-- ASCII text (every byte below 0x80, control characters and quotes included) comes back unchanged -/
theorem sanitize_ascii : ∀ (n : Nat) (bs : Bytes), (∀ b ∈ bs, b < 128) → sanitizeFuel n bs = bs.take n
  | 0, bs, _ => by simp [sanitizeFuel]
  | n + 1, [], _ => by simp [sanitizeFuel]
  | n + 1, b :: rest, h => by
    have hb : b < 0x80 := h b (by simp)
    simp only [sanitizeFuel, hb, if_true, List.take_succ_cons]
    rw [sanitize_ascii n rest (fun x hx => h x (by simp [hx]))]

theorem ascii_details_roundtrip (html : Bool) (details : Bytes) (h : ∀ b ∈ details, b < 128) :
    unquote (quote html details) = some details := by
  rw [details_roundtrip, sanitize, sanitize_ascii _ _ h, List.take_length]

/-- **The model's copy-through of a well-formed multi-byte sequence is what `unquoteBytes` does**: the real code
    decodes the rune (`utf8.DecodeRune`) and re-encodes it (`utf8.EncodeRune`); for every head the decoder accepts
    (width ≥ 2) that yields exactly the bytes consumed, and the decoder consumed exactly `width` of them.
    So the copy-through rests on no assumption about UTF-8: overlong forms, surrogates and values above U+10FFFF
    are all excluded by `width`'s ranges. -/
theorem copy_through_is_decode_encode (b : Nat) (rest : Bytes) (hw : 2 ≤ Zl.Thresholds.width (b :: rest)) :
    encodeRune (Zl.Thresholds.decodeRune (b :: rest)).1 = (b :: rest).take (Zl.Thresholds.width (b :: rest)) ∧
    (Zl.Thresholds.decodeRune (b :: rest)).2 = Zl.Thresholds.width (b :: rest) := by
  have hb : ¬ b < 0x80 := fun hb => by rw [width_ascii hb] at hw; omega
  have h64 : ∀ c, c % 64 < 64 := fun c => Nat.mod_lt c (by decide)
  simp only [decodeRune, hb, Nat.not_le.mpr hw, if_false]
  rcases width_ge_two hw with ⟨_, c1, r, ⟨rfl, rfl⟩, hw2, h⟩ | ⟨_, c1, c2, r, ⟨rfl, rfl⟩, hw3, h⟩ | ⟨_, c1, c2, c3, r, ⟨rfl, rfl⟩, hw4, h⟩
  -- every byte is its marker plus the digit `decodeRune` takes from it, and `width`'s ranges are those of `encodeRune_digits…`
  · obtain ⟨eb, e1, hlo⟩ : 0xC0 + b % 32 = b ∧ 0x80 + c1 % 64 = c1 ∧ 2 ≤ b % 32 := by omega
    simp only [hw2]
    rw [encodeRune_digits2 hlo (Nat.mod_lt b (by decide)) (h64 c1), eb, e1]
    exact ⟨rfl, trivial⟩
  · obtain ⟨eb, e1, e2, hlo, hsur⟩ : 0xE0 + b % 16 = b ∧ 0x80 + c1 % 64 = c1 ∧ 0x80 + c2 % 64 = c2 ∧
        (b % 16 = 0 → 32 ≤ c1 % 64) ∧ (b % 16 = 13 → c1 % 64 < 32) := by omega
    simp only [hw3]
    rw [encodeRune_digits3 (Nat.mod_lt b (by decide)) (h64 c1) (h64 c2) hlo hsur, eb, e1, e2]
    exact ⟨rfl, trivial⟩
  · obtain ⟨eb, e1, e2, e3, hx, hlo, hhi⟩ : 0xF0 + b % 8 = b ∧ 0x80 + c1 % 64 = c1 ∧ 0x80 + c2 % 64 = c2 ∧
        0x80 + c3 % 64 = c3 ∧ b % 8 < 5 ∧ (b % 8 = 0 → 16 ≤ c1 % 64) ∧ (b % 8 = 4 → c1 % 64 < 16) := by omega
    simp only [hw4]
    rw [encodeRune_digits4 hx (h64 c1) (h64 c2) (h64 c3) hlo hhi, eb, e1, e2, e3]
    exact ⟨rfl, trivial⟩

example : 2 ≤ Zl.Thresholds.width [0xF4, 0x8F, 0xBF, 0xBF, 0x41] ∧ Zl.Thresholds.width [0xED, 0xA0, 0x80] = 1
    ∧ Zl.Thresholds.width [0xC0, 0x80] = 1 ∧ Zl.Thresholds.width [0xF4, 0x90, 0x80, 0x80] = 1 := by decide

/-- the replacement is visible and bounded: a lone continuation byte becomes EF BF BD, a valid sequence is kept -/
example : sanitize [0x41, 0xFF, 0x42] = [0x41, 0xEF, 0xBF, 0xBD, 0x42] ∧ sanitize [0xC3, 0xA9] = [0xC3, 0xA9]
    ∧ sanitize [0xE2, 0x80, 0xA8] = [0xE2, 0x80, 0xA8] ∧ sanitize [0xC3] = [0xEF, 0xBF, 0xBD] := by decide
example : quote true [0x3c, 0x22, 0x0a] = [0x22, 0x5c, 0x75, 0x30, 0x30, 0x33, 0x63, 0x5c, 0x22, 0x5c, 0x6e, 0x22] := by decide

end StringCodec

end Zl.C14
