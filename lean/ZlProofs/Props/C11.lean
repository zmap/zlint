/-
  C11 — Configuration changes only what it names, and errors stay local.

  Partial: go-toml's parser and its reflection-based Unmarshal are abstracted to the typed-field view of
  ZlModel.Config (assumption A-TOML: key search order name / lower / upper / lower-first, exact kind match,
  unknown keys ignored), validated by the `config` correspondence on generated documents.
-/
import ZlModel.RegSeq
import ZlModel.Config
import ZlProofs.Lemmas.Filter
import ZlProofs.Props.C04
namespace Zl.C11
open Zl

/-- **Locality**: a lint's configuration outcome depends only on its own namespace and the global
    namespaces its struct embeds. -/
theorem locality (doc doc' : Doc) (spec : Option CfgSpec) (name : String)
    (h : ∀ ns ∈ namespacesOf spec name, doc ns = doc' ns) :
    maybeConfigure doc spec name = maybeConfigure doc' spec name := by
  cases spec with
  | none => rfl
  | some s =>
    simp only [maybeConfigure, configure, namespacesOf] at *
    have h0 : doc name = doc' name := h name List.mem_cons_self
    have hg : s.globals.any (fun g => doc g == .notATable) = s.globals.any (fun g => doc' g == .notATable) := by
      rw [Bool.eq_iff_iff, List.any_eq_true, List.any_eq_true]
      exact exists_congr fun g => and_congr_right fun hg => by rw [h g (List.mem_cons_of_mem _ hg)]
    rw [h0, hg]

/-- **No configuration = empty = only unrelated sections**: if none of the lint's namespaces occurs,
    it is configured exactly as with the empty document. -/
theorem absent_is_default (doc : Doc) (spec : Option CfgSpec) (name : String)
    (h : ∀ ns ∈ namespacesOf spec name, doc ns = .absent) :
    maybeConfigure doc spec name = maybeConfigure (fun _ => .absent) spec name :=
  locality doc _ spec name h

/-- … and that is "all defaults, no error" -/
theorem empty_is_defaults (s : CfgSpec) (name : String) : maybeConfigure (fun _ => .absent) (some s) name = .ok (defaults s.fields) := by
  simp [maybeConfigure, configure]

/-- **Setting lint a's option changes nothing for another lint** whose namespaces do not include a's. -/
theorem other_lints_unaffected (doc : Doc) (a : String) (sec : Section) (spec : Option CfgSpec) (name : String)
    (hne : a ∉ namespacesOf spec name) :
    maybeConfigure (fun ns => if ns == a then sec else doc ns) spec name = maybeConfigure doc spec name := by
  apply locality
  intro ns hns
  simp [show ns ≠ a from fun h => hne (h ▸ hns)]

/-- **A section that is not a table is a configuration error** — an error value, never a panic: the
    model's `configure` is total (this is what the `fix:` commit 268fc05 made true of the code). -/
theorem not_a_table_is_error (doc : Doc) (s : CfgSpec) (name : String) (h : doc name = .notATable) :
    ∃ e, maybeConfigure doc (some s) name = .error e := by
  simp only [maybeConfigure, configure, h]
  exact ⟨_, rfl⟩

/-- an ill-typed value for a declared field is a configuration error -/
theorem ill_typed_is_error (f : FieldSpec) (rest : List FieldSpec) (tbl : List (String × TVal)) (v : TVal)
    (hv : findField tbl f.name = some v) (hk : v.kind ≠ f.kind) : ∃ e, decodeFields (f :: rest) tbl = .error e := by
  simp [decodeFields, hv, hk]

/-- **Errors stay local in a run**: the lint with the configuration error reports fatal with the error
    text and nothing of it is run; every lint whose configure outcome is unchanged reports exactly
    what it reports without the broken section (framework level: C04.config_error_fatal; the
    per-lint independence is C07). -/
theorem error_local {Obj Cfg : Type} (k : Kind) (sc : Scope) (t : Time) (l : Lint Obj Cfg) (o : Obj) (cfg : Cfg)
    (hs : k = .cert → inScope l.md.source sc = true) (e : String) (hc : l.configure cfg = .ok (some e)) :
    (execute k sc t l o cfg).1 = .result Status.fatal e ∧ Call.applies ∉ (execute k sc t l o cfg).2 ∧ Call.body ∉ (execute k sc t l o cfg).2 := by
  rw [C04.config_error_fatal k sc t l o cfg hs e hc]
  simp

/-! ### configuration does not leak between registries or runs -/

/-- drop every operation on registry 2 -/
def onlyR1 {D : Type} : List (CfgOp D) → List (CfgOp D)
  | [] => []
  | .set1 d :: rest => .set1 d :: onlyR1 rest
  | .lint1 :: rest => .lint1 :: onlyR1 rest
  | _ :: rest => onlyR1 rest

def obs1 {D : Type} : CfgState D → List (CfgOp D) → List D
  | _, [] => []
  | s, .lint1 :: rest => s.c1 :: obs1 s rest
  | s, op :: rest => obs1 (cfgStep s op).1 rest

/-- **No leak**: what runs on registry 1 observe is a function of the SetConfiguration calls on
    registry 1 alone — no SetConfiguration on, Filter into, or run of registry 2 changes it. -/
theorem no_leak_r1 {D : Type} (ops : List (CfgOp D)) (s s' : CfgState D) (h : s.c1 = s'.c1) :
    obs1 s ops = obs1 s' (onlyR1 ops) := by
  induction ops generalizing s s' with
  | nil => rfl
  | cons op rest ih =>
    cases op <;> simp only [obs1, onlyR1, cfgStep]
    case set1 d => exact ih _ _ rfl
    case lint1 => rw [h, ih _ _ h]
    all_goals exact ih _ _ h

/-- a run sees the configuration last set on its registry -/
theorem sees_last_set {D : Type} (s : CfgState D) (d : D) : cfgRun s [.set1 d, .lint1] = [d] := rfl

/-- a filtered registry inherits the configuration in force at filtering time, and later changes of
    the source registry do not reach it -/
theorem filter_inherits {D : Type} (s : CfgState D) (d d' : D) :
    cfgRun s [.set1 d, .filter, .set1 d', .lint2, .lint1] = [d, d'] := rfl

def encodeDefaults (fs : List FieldSpec) : List (String × TVal) := fs.map (fun f => (f.name, ⟨f.kind, f.dflt⟩))

theorem find_encoded (fs : List FieldSpec) (hnd : (fs.map (·.name)).Nodup) (f : FieldSpec) (hf : f ∈ fs) :
    (encodeDefaults fs).find? (fun p => p.1 == f.name) = some (f.name, ⟨f.kind, f.dflt⟩) := by
  refine (find?_eq_some_of_nodup (f := Prod.fst) (l := encodeDefaults fs) ?_).mpr ⟨List.mem_map.mpr ⟨f, hf, rfl⟩, rfl⟩
  simpa [encodeDefaults, Function.comp_def] using hnd

/-- **Example configuration round trip (partial: scalar int / bool / string fields)**: decoding a table
    that spells out every field's default gives back the defaults, for specs with distinct field names. -/
theorem defaults_roundtrip_partial (fs : List FieldSpec) (hnd : (fs.map (·.name)).Nodup) :
    decodeFields fs (encodeDefaults fs) = .ok (defaults fs) := by
  have key : ∀ sub : List FieldSpec, (∀ f ∈ sub, f ∈ fs) → decodeFields sub (encodeDefaults fs) = .ok (defaults sub) := by
    intro sub
    induction sub with
    | nil => intro _; rfl
    | cons f rest ih =>
      intro hsub
      rw [List.forall_mem_cons] at hsub
      have hfind : findField (encodeDefaults fs) f.name = some ⟨f.kind, f.dflt⟩ := by
        simp [findField, keysToTry, find_encoded fs hnd f hsub.1]
      simp only [decodeFields, hfind, Option.map_some, beq_self_eq_true, if_true, ih hsub.2]
      rfl
  exact key fs (fun f hf => hf)

/-- non-vacuity: the probe spec of the harness, configured from a document that sets one field -/
example : configure (fun ns => if ns == "e_x" then .table [("a", ⟨.int, "5"⟩), ("Zextra", ⟨.str, "q"⟩)] else .absent)
    { fields := [⟨"A", .int, "7"⟩, ⟨"B", .bool, "false"⟩] } "e_x" = .ok [("A", "5"), ("B", "false")] := by rfl

/-! ## Registries as objects: no leak at the level of the heap

  `ZlModel/RegSeq.lean` models registries as objects on a heap with handles that may alias (`Filter` with empty
  options returns its receiver; any other successful `Filter` allocates). It is tied to registration.go by the
  `regseq` correspondence: arbitrary sequences of NewRegistry / Register* / Filter / SetConfiguration /
  GetConfiguration / Names / Sources / WriteJSON, every observation compared. -/
section Heap
open Zl.RegSeq

theorem regOf_handle {hp : Heap} {h i : Nat} {r : Reg} (hr : hp.regOf h = some (i, r)) : hp.handles[h]? = some i := by
  unfold Heap.regOf at hr
  split at hr
  next j hj =>
    obtain ⟨_, -, ⟨⟩⟩ := Option.map_eq_some_iff.mp hr
    exact hj
  next => cases hr

/-- reads (GetConfiguration, Names, Sources, WriteJSON) change nothing -/
theorem heap_reads_pure (hp : Heap) (h : Nat) :
    (step hp (.getCfg h)).1 = hp ∧ (step hp (.names h)).1 = hp ∧ (step hp (.sources h)).1 = hp ∧ (step hp (.listing h)).1 = hp := by
  simp [step]

/-- `SetConfiguration` reaches exactly one registry object -/
theorem heap_setConfiguration_local (hp : Heap) (h : Nat) (tag : String) (j : Nat) (hj : hp.handles[h]? ≠ some j) :
    (step hp (.setCfg h tag)).1.regs[j]? = hp.regs[j]? := by
  cases hr : hp.regOf h with
  | none => simp [step, hr]
  | some p =>
    have hne : p.1 ≠ j := fun e => hj (e ▸ regOf_handle hr)
    simp [step, hr, Heap.setReg, hne]

/-- a filtered registry is a new object that starts with its source's configuration of that moment … -/
theorem heap_filter_inherits (hp : Heap) (h i : Nat) (r r' : Reg) (o : FilterOptions)
    (hr : hp.regOf h = some (i, r)) (hf : filter r o = .ok r') (hne : o.empty = false) :
    (step hp (.filter h o)).1.regs = hp.regs ++ [r'] ∧ (step hp (.filter h o)).1.handles = hp.handles ++ [hp.regs.length] ∧ r'.cfg = r.cfg := by
  simp only [step, hr, hf, hne]
  exact ⟨rfl, rfl, filter_cfg hf⟩

/-- … and configuring the source afterwards does not reach it -/
theorem heap_no_leak (hp : Heap) (h i : Nat) (r r' : Reg) (o : FilterOptions) (tag : String)
    (hr : hp.regOf h = some (i, r)) (hf : filter r o = .ok r') (hne : o.empty = false) (hi : i < hp.regs.length) :
    (step (step hp (.filter h o)).1 (.setCfg h tag)).1.regs[hp.regs.length]? = some r' := by
  obtain ⟨hregs, hhandles, -⟩ := heap_filter_inherits hp h i r r' o hr hf hne
  have hh := regOf_handle hr
  rw [heap_setConfiguration_local, hregs]
  · simp
  · -- the handle still points at the source, an older object than the new one
    rw [hhandles, List.getElem?_append_left (List.getElem?_eq_some_iff.mp hh).1, hh]
    simp
    omega

end Heap

end Zl.C11
