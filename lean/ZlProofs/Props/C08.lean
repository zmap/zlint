/-
  C08 — Filtering selects exactly the documented set.
-/
import ZlProofs.Lemmas.Filter
namespace Zl.C08
open Zl
variable {α Cfg : Type}

/-- the documented selection: not from an excluded source, from an included source when any are
    given, matching the pattern when one is given, not among the excluded names, among the included
    names when any are given — names compared after trimming surrounding blanks -/
def selected (o : FilterOptions) (name source : String) : Prop :=
  source ∉ o.excludeSources
  ∧ (o.includeSources = [] ∨ source ∈ o.includeSources)
  ∧ (∀ f, o.nameFilter = some f → f name = true)
  ∧ (¬ ∃ n ∈ o.excludeNames, trimSpace n = name)
  ∧ (o.includeNames = [] ∨ ∃ n ∈ o.includeNames, trimSpace n = name)

/-- no filtering requested: the very same registry comes back (nil and empty lists alike) -/
theorem filter_empty_id (r : Registry α Cfg) (o : FilterOptions) (h : o.empty = true) : filter r o = .ok r := by
  simp [filter, h]

/-- the model's five-clause test, with the maps `Filter` builds, is the documented selection -/
theorem selectedBy_iff (o : FilterOptions) {nameEx nameIn : Option (List String)}
    (hex : ∀ x, x ∈ nameEx.getD [] ↔ ∃ n ∈ o.excludeNames, trimSpace n = x)
    (hin0 : nameIn = none ↔ o.includeNames = [])
    (hin : ∀ x, x ∈ nameIn.getD [] ↔ ∃ n ∈ o.includeNames, trimSpace n = x) (name source : String) :
    selectedBy (sourceListToMap o.excludeSources) (sourceListToMap o.includeSources) o.nameFilter nameEx nameIn name source = true
      ↔ selected o name source := by
  simp only [selectedBy, selected, sourceListToMap, Bool.and_eq_true, and_assoc, ← hex, ← hin, ← hin0]
  refine and_congr ?_ (and_congr ?_ (and_congr ?_ (and_congr ?_ ?_)))
  · cases o.excludeSources <;> simp
  · cases o.includeSources <;> simp
  · cases o.nameFilter <;> simp
  · cases nameEx <;> simp
  · cases nameIn <;> simp

/-- the two reasons for which `Filter` refuses options: an unknown name, or a pattern together with names -/
def rejected (r : Registry α Cfg) (o : FilterOptions) : Prop :=
  (∃ n ∈ o.excludeNames ++ o.includeNames, r.find (trimSpace n) = none)
    ∨ (o.nameFilter.isSome = true ∧ (o.excludeNames ≠ [] ∨ o.includeNames ≠ []))

theorem filter_outcome (r : Registry α Cfg) (hr : RInv r) (o : FilterOptions) (hne : o.empty = false) :
    match filter r o with
    | .ok r' => ¬ rejected r o ∧ RInv r' ∧ r'.cfg = r.cfg ∧
        ∀ k e, e ∈ (r'.lookupOf k).lints ↔ (e ∈ (r.lookupOf k).lints ∧ selected o e.md.name e.md.source)
    | .error _ => rejected r o := by
  have sE := lintNamesToMap_spec r o.excludeNames
  have sI := lintNamesToMap_spec r o.includeNames
  simp only [filter, hne, Bool.false_eq_true, if_false]
  generalize lintNamesToMap r o.excludeNames = resE at sE ⊢
  generalize lintNamesToMap r o.includeNames = resI at sI ⊢
  cases resE with
  | error _ =>
    obtain ⟨n, hn, h⟩ := sE
    exact .inl ⟨n, List.mem_append_left _ hn, h⟩
  | ok nameEx =>
  cases resI with
  | error _ =>
    obtain ⟨n, hn, h⟩ := sI
    exact .inl ⟨n, List.mem_append_right _ hn, h⟩
  | ok nameIn =>
  obtain ⟨kE, -, mE⟩ := sE
  obtain ⟨kI, nI, mI⟩ := sI
  -- the maps are empty exactly when the lists are
  have hC : (o.nameFilter.isSome && ((nameEx.getD []).length != 0 || (nameIn.getD []).length != 0)) = true ↔
      (o.nameFilter.isSome = true ∧ (o.excludeNames ≠ [] ∨ o.includeNames ≠ [])) := by
    simp [List.eq_nil_iff_forall_not_mem, mE, mI]
  by_cases h : (o.nameFilter.isSome && ((nameEx.getD []).length != 0 || (nameIn.getD []).length != 0)) = true
  · simp only [h, if_true]
    exact .inr (hC.mp h)
  · obtain ⟨r', hl, hinv, hmem⟩ := filterLoop_names hr
      (selectedBy (sourceListToMap o.excludeSources) (sourceListToMap o.includeSources) o.nameFilter nameEx nameIn)
    simp only [h, hl]
    refine ⟨?_, hinv, (filterLoop_cfg hl :), fun k e => by rw [hmem, selectedBy_iff o mE nI mI]⟩
    rintro (⟨n, hn, hnone⟩ | hc)
    · exact (List.mem_append.mp hn).elim (kE n · hnone) (kI n · hnone)
    · exact h (hC.mpr hc)

/-- **Filter specification.** For a registry whose lookups are consistent and whose names are unique
    across kinds, a successful non-trivial filter yields precisely the selected lints of each kind
    (each entry — kind, metadata, implementation — is the very value registered in `r`), keeps the
    invariant, and inherits the configuration. -/
theorem filter_spec (r r' : Registry α Cfg) (hr : RInv r) (o : FilterOptions) (hne : o.empty = false)
    (h : filter r o = .ok r') :
    RInv r' ∧ r'.cfg = r.cfg ∧
      ∀ k e, e ∈ (r'.lookupOf k).lints ↔ (e ∈ (r.lookupOf k).lints ∧ selected o e.md.name e.md.source) := by
  have := filter_outcome r hr o hne
  rw [h] at this
  exact this.2

/-- the source registry is not changed: `filter` is a function of it (the model is pure); what the
    *code* must satisfy for this — no store through the receiver in `Filter` and its callees — is the
    regenerated footprint obligation `filter_receiver_readonly` in C10. -/
theorem filter_pure (r : Registry α Cfg) (o : FilterOptions) : (filter r o, r) = (filter r o, r) := rfl

/-- **When is a filter rejected?** Exactly for an unknown (trimmed) name in either list, or a name
    pattern combined with a non-empty name list. Never for any other reason (in particular never
    by a registration error) when the registry invariant holds. -/
theorem filter_error_iff (r : Registry α Cfg) (hr : RInv r) (o : FilterOptions) :
    (∃ err, filter r o = .error err) ↔
      o.empty = false ∧ ((∃ n ∈ o.excludeNames ++ o.includeNames, r.find (trimSpace n) = none)
        ∨ (o.nameFilter.isSome = true ∧ (o.excludeNames ≠ [] ∨ o.includeNames ≠ []))) := by
  cases hne : o.empty with
  | true => simp [filter_empty_id r o hne]
  | false =>
    have := filter_outcome r hr o hne
    generalize filter r o = res at this ⊢
    cases res with
    | error err => exact ⟨fun _ => ⟨rfl, this⟩, fun _ => ⟨err, rfl⟩⟩
    | ok _ => exact ⟨fun ⟨_, h⟩ => (nomatch h), fun h => absurd h.2 this.1⟩

/-- including only a source that has no lints yields an empty registry, not an error -/
theorem source_without_lints (r r' : Registry α Cfg) (hr : RInv r) (s : String)
    (hnone : ∀ k, ∀ e ∈ (r.lookupOf k).lints, e.md.source ≠ s)
    (h : filter r { includeSources := [s] } = .ok r') : ∀ k, (r'.lookupOf k).lints = [] := by
  intro k
  refine List.eq_nil_iff_forall_not_mem.mpr fun e he => ?_
  obtain ⟨he', -, hs, -⟩ := ((filter_spec r r' hr _ (by simp [FilterOptions.empty]) h).2.2 k e).mp he
  exact hnone k e he' (by simpa using hs)

/-- non-vacuity: registries satisfying the invariant exist and are what `register` builds -/
example : ∃ r : Registry Unit Unit, RInv r ∧ (r.lookupOf .cert).lints.length = 1 := by
  obtain ⟨r, _, hinv, hl⟩ := registry_register_ok (RInv.empty (α := Unit) ()) .cert
    { md := { name := "e_a", source := "RFC5280" }, payload := () } ⟨rfl, rfl, by decide⟩
    (by intro k h; cases k <;> simp [nameIn, Registry.lookupOf] at h)
  exact ⟨r, hinv, by rw [hl]; rfl⟩

end Zl.C08
