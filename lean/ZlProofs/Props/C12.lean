/-
  C12 — Every lint in the tree is registered once, reachable and well-formed.

  Two independent derivations are compared by the kernel: `registrations` (F1: what the Go AST /
  SSA of the lint source tree says) and `runtimeLints` / `runtimeNames…` (F2: what a default build's
  registry holds at run time). Plus the induction showing the agreement of the lookup tables is a
  property of `register`, not an accident of today's table.
-/
import ZlProofs.Lemmas.Tables
import ZlProofs.Lemmas.Filter
import ZlProofs.Props.C13
namespace Zl.C12
open Zl Generated

/-- the extractor read the tree without errors (an unreadable registration makes this fail) -/
theorem extractor_clean : extractorErrors = 0 := by decide

/-- **Census = registry.** The names registered in the sources (sorted) are exactly `Names()` of a
    default build — hence equal counts — and likewise per kind. -/
theorem census_eq_runtime : registrations.map (·.key) = runtimeNames := by decide +kernel

theorem census_eq_runtime_cert : (registrations.filter (·.kind == 0)).map (·.key) = runtimeNames_cert := by decide +kernel
theorem census_eq_runtime_crl : (registrations.filter (·.kind == 1)).map (·.key) = runtimeNames_crl := by decide +kernel
theorem census_eq_runtime_ocsp : (registrations.filter (·.kind == 2)).map (·.key) = runtimeNames_ocsp := by decide +kernel

theorem count_eq : registrations.length = runtimeLints.length ∧ runtimeLints.length = runtimeNames.length
    ∧ runtimeJSONLines = runtimeLints.length := by decide +kernel

/-- names are listed in sorted order and are unique **across** certificate, CRL and OCSP lints -/
theorem names_sorted_unique : strictSorted runtimeNames = true := by
  -- chunk by chunk, each in a kernel evaluation of its own (see the note in C18 on padded keys)
  simp only [runtimeNames, List.append_assoc]
  repeat with_reducible refine strictSorted_append _ _ ?_ ?_
  all_goals decide +kernel
theorem names_nodup : runtimeNames.Nodup := strictSorted_nodup _ names_sorted_unique
theorem kind_names_sorted : strictSorted runtimeNames_cert = true ∧ strictSorted runtimeNames_crl = true
    ∧ strictSorted runtimeNames_ocsp = true := by
  refine ⟨?_, by decide +kernel, by decide +kernel⟩
  simp only [runtimeNames_cert, List.append_assoc]
  repeat with_reducible refine strictSorted_append _ _ ?_ ?_
  all_goals decide +kernel

/-- every registration call sits in an `init` function with a literal name, and every lint type
    (a type with CheckApplies and Execute) is the implementation of exactly one registration -/
theorem all_registered_in_init : registrations.all (fun r => r.inInit && r.nameLiteral) = true := by decide +kernel
theorem lint_types_eq_registered_types : (msort (registrations.map (·.typeKey)) == msort lintTypes) = true := by decide +kernel
theorem registered_once : strictSorted (msort (registrations.map (·.typeKey))) = true := by decide +kernel

/-- every lint package directory is linked into a default build (blank import in zlint.go) -/
theorem all_packages_linked : lintDirKeys.all (fun d => blankImportKeys.contains d) = true
    ∧ registrationPkgKeys.all (fun p => blankImportKeys.contains p) = true := by decide +kernel

/-- no file below v3/lints that the default build leaves out (a name ending in `_test.go`, a `_GOOS`/`_GOARCH`
    suffix, a build constraint) holds a registration call: every lint in the tree is in every default build -/
theorem no_registration_outside_default_build : excludedRegistrations.isEmpty = true := by decide

/-- **Lookups agree** (run-time observation of the real registry): each listed lint is what
    `ByName` returns for its name and occurs exactly once in `BySource` of its source; per kind the
    listing, the name list and the source list describe the same set; the registry-level source
    list is their union; `BySource` has no further elements. -/
theorem lookups_agree :
    runtimeLints.all (fun l => l.byNameOK && l.inBySource == 1) = true
    ∧ msort ((runtimeLints.filter (·.kind == 0)).map (·.key)) = runtimeNames_cert
    ∧ msort ((runtimeLints.filter (·.kind == 1)).map (·.key)) = runtimeNames_crl
    ∧ msort ((runtimeLints.filter (·.kind == 2)).map (·.key)) = runtimeNames_ocsp
    ∧ dedupSorted (msort ((runtimeLints.filter (·.kind == 0)).map (·.sourceK))) = msort runtimeSourceKeys_cert
    ∧ dedupSorted (msort ((runtimeLints.filter (·.kind == 1)).map (·.sourceK))) = msort runtimeSourceKeys_crl
    ∧ dedupSorted (msort ((runtimeLints.filter (·.kind == 2)).map (·.sourceK))) = msort runtimeSourceKeys_ocsp
    ∧ dedupSorted (msort (runtimeLints.map (·.sourceK))) = msort runtimeSourceKeys
    ∧ runtimeBySourceCounts.all (fun c => (runtimeLints.filter (fun l => l.kind == c.1 && l.sourceK == c.2.1)).length == c.2.2) = true := by
  decide +kernel

/-- one number per lint: name key (most significant), source key, kind, configurable, has-description -/
def tupleKey (key sourceK kind : Nat) (configurable hasDescription : Bool) : Nat :=
  ((key * 256 ^ 24 + sourceK) * 8 + kind) * 4 + (if configurable then 2 else 0) + (if hasDescription then 1 else 0)

/-- the source-level census and the run-time registry agree, lint by lint, on name, kind, source,
    configurability and presence of a description (source keys are below 256^24, checked) -/
theorem census_metadata_agrees :
    (msort (runtimeLints.map (fun l => tupleKey l.key l.sourceK l.kind l.configurable l.hasDescription))
      == registrations.map (fun r => tupleKey r.key r.sourceK r.kind r.configurable r.hasDescription)) = true
    ∧ runtimeLints.all (fun l => decide (l.sourceK < 256 ^ 24)) = true
    ∧ registrations.all (fun r => decide (r.sourceK < 256 ^ 24)) = true := by decide +kernel

/-- known sources: the constants of lint/source.go except `Unknown` -/
def knownSourceKeys : List Nat := (sourceConstKeys.filter (fun p => p.1 != "UnknownLintSource")).map (·.2)

/-- **Well-formed.** Non-empty lower-case visible-ASCII name with an e_/w_/n_ prefix, a description, a
    known source, a non-nil constructor and instance, effective date before ineffective date when both are set. -/
theorem wellformed :
    runtimeLints.all (fun l =>
      l.key != 0
      && prefixClass nameWidth l.key < 3
      && paddedNameOK (bytesLE nameWidth l.key)
      && l.hasDescription
      && knownSourceKeys.contains l.sourceK
      && !l.ctorNil && !l.instanceNil
      && (l.effZero || l.ineffZero || decide (l.effSec < l.ineffSec) || (l.effSec == l.ineffSec && decide (l.effNsec < l.ineffNsec)))) = true := by
  -- the bytes of the names are C13's `listed_names_have_no_blanks`; the rest is evaluated here
  have h : runtimeLints.all (fun l =>
      l.key != 0
      && prefixClass nameWidth l.key < 3
      && l.hasDescription
      && knownSourceKeys.contains l.sourceK
      && !l.ctorNil && !l.instanceNil
      && (l.effZero || l.ineffZero || decide (l.effSec < l.ineffSec) || (l.effSec == l.ineffSec && decide (l.effNsec < l.ineffNsec)))) = true := by
    decide +kernel
  refine List.all_eq_true.mpr fun l hl => ?_
  have h1 := List.all_eq_true.mp h l hl
  have h2 := List.all_eq_true.mp C13.listed_names_have_no_blanks l hl
  simp only [Bool.and_eq_true] at h1 ⊢
  simp only [h1, h2, and_self]

/-- all effective / ineffective dates in the registry are whole seconds (so a one-second step is the
    finest distinction an encoded time can make at a window boundary — used by C03's boundary sweep) -/
theorem dates_whole_seconds : runtimeLints.all (fun l => l.effNsec == 0 && l.ineffNsec == 0) = true := by decide +kernel

/-! ### the invariant is a property of `register` -/

/-- apply a sequence of registrations, ignoring the rejected ones (what a sequence of init() calls
    amounts to, panics aside) -/
def registerAll {α : Type} (lk : Lookup α) (es : List (Entry α)) : Lookup α :=
  es.foldl (fun lk e => match lk.register e with | .ok lk' => lk' | .error _ => lk) lk

/-- **For every registration sequence** the four tables stay mutually consistent, names stay unique
    per kind, and duplicates / empty names / nil constructors are rejected without changing state. -/
theorem register_inv_all {α : Type} (es : List (Entry α)) (lk : Lookup α) (h : LInv lk) : LInv (registerAll lk es) := by
  induction es generalizing lk with
  | nil => exact h
  | cons e es ih =>
    simp only [registerAll, List.foldl]
    cases hr : lk.register e with
    | ok lk' => exact ih lk' (register_inv lk lk' e h hr).1
    | error err => exact ih lk h

theorem registered_from_empty {α : Type} (es : List (Entry α)) : LInv (registerAll ({} : Lookup α) es) :=
  register_inv_all es {} LInv.empty

/-- the listing of a registry built by any registration sequence contains exactly the accepted
    entries, in order -/
theorem registerAll_lints {α : Type} (es : List (Entry α)) (lk : Lookup α) (h : LInv lk) :
    ∃ acc, (registerAll lk es).lints = lk.lints ++ acc ∧ ∀ e ∈ acc, e ∈ es ∧ e.valid := by
  induction es generalizing lk with
  | nil => exact ⟨[], by simp [registerAll], by simp⟩
  | cons e es ih =>
    simp only [registerAll, List.foldl]
    cases hr : lk.register e with
    | ok lk' =>
      obtain ⟨hinv, hl, hv, -⟩ := register_inv lk lk' e h hr
      obtain ⟨acc, hacc, hall⟩ := ih lk' hinv
      exact ⟨e :: acc, hacc.trans (by rw [hl, List.append_assoc, List.singleton_append]),
        List.forall_mem_cons.mpr ⟨⟨List.mem_cons_self, hv⟩, fun x hx => (hall x hx).imp_left (List.mem_cons_of_mem _)⟩⟩
    | error err =>
      obtain ⟨acc, hacc, hall⟩ := ih lk h
      exact ⟨acc, hacc, fun x hx => (hall x hx).imp_left (List.mem_cons_of_mem _)⟩

/-- non-vacuity -/
example : registrations.length = 377 ∧ lintTypes.length = 377 := by decide +kernel

end Zl.C12
