/-
  Pins19 — the hand-written models that C19's theorems are stated over were written from the text of the functions listed in
  /verif/modelled_functions.json. This obligation (regenerated on every run) says that text is still the text in /repo:
  a model of a function whose text has changed is no longer known to describe the code, whatever the sampled
  correspondence says.
-/
import ZlProofs.Lemmas.Pins
namespace Zl.Pins19

theorem modelled_text_unchanged : Generated.pinsHold 19 = true := by
  rw [Generated.pinsHold_eq]
  decide +kernel

/-- the statement is about a non-empty list -/
theorem pins_nonempty : decide (0 < Generated.pinCount 19) = true :=
  Generated.pinCount_pos 19 (by decide +kernel)

end Zl.Pins19
