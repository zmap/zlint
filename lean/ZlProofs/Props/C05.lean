/-
  C05 — Linting is deterministic, history-independent, read-only and I/O-free.

  Two layers. (1) Theorems about arbitrary effectful calls: if the calls of a history are read-only
  (leave world and object as found) then results do not depend on the history, repetitions agree, and
  the object is unchanged. (2) The hypotheses of (1) for the real code are the footprints regenerated
  from the source on every run (SSA stores through the linted object, stores to package-level
  variables, calls leaving the module, map-range sites), decided here by kernel evaluation against
  hand-written allow-lists — these lists are part of the specification, not generated.

  Partial: that the SSA footprint over-approximates the effects of the Go code (reflection, unsafe,
  third-party internals such as zcrypto's memoised GetParsedDNSNames) is trusted and cross-checked
  dynamically (snapshots, repetitions, histories), not proved.
-/
import ZlModel.World
import ZlModel.Key
import ZlModel.Generated.Registry
import ZlModel.Generated.Sites
namespace Zl.C05
open Zl Generated

/-! ### (1) effect theorems -/

theorem runHistory_readOnly {G Obj Out : Type} (h : List (Eff G Obj Out × Obj)) (hro : ∀ p ∈ h, p.1.readOnly) (g : G) :
    runHistory h g = (h.map fun p => (p.1.run g p.2).1, g) := by
  induction h with
  | nil => rfl
  | cons p rest ih =>
    obtain ⟨c, o⟩ := p
    rw [List.forall_mem_cons] at hro
    have hc : (c.run g o).2 = (g, o) := hro.1 g o
    simp only [runHistory, hc, ih hro.2, List.map_cons]

/-- **History independence**: after any history of read-only calls (other objects, other
    registries, other configurations — all are just calls) a call returns what it returns in the initial world. -/
theorem history_independent {G Obj Out : Type} (h : List (Eff G Obj Out × Obj)) (hro : ∀ p ∈ h, p.1.readOnly)
    (c : Eff G Obj Out) (o : Obj) (g : G) : (c.run (runHistory h g).2 o).1 = (c.run g o).1 := by
  rw [runHistory_readOnly h hro]

/-- **Read-only**: the linted object comes back unchanged. -/
theorem object_unchanged {G Obj Out : Type} (c : Eff G Obj Out) (hro : c.readOnly) (g : G) (o : Obj) :
    (c.run g o).2.2 = o := by rw [hro g o]

/-- **Determinism under repetition**: n repetitions of a read-only call on the same object all give the same output. -/
theorem repetition_constant {G Obj Out : Type} (c : Eff G Obj Out) (hro : c.readOnly) (g : G) (o : Obj) (n : Nat) :
    (runHistory (List.replicate n (c, o)) g).1 = List.replicate n (c.run g o).1 := by
  rw [runHistory_readOnly _ (fun p hp => List.eq_of_mem_replicate hp ▸ hro), List.map_replicate]

/-! ### (2) the regenerated footprints against the specification's allow-lists -/

/-- no lint (constructor, Configure, CheckApplies, Execute and everything they reach inside the
    module) stores through the linted object, and no function of the module does -/
theorem no_object_writes : registrations.all (fun r => r.writes.isEmpty) = true ∧ objectWrites = [] := by decide +kernel

/-- `append(obj.slice, …)` sites (they may write into spare capacity beyond len — invisible in the
    exported fields, reviewed): exactly the onion helpers appending the CN to DNSNames -/
def reviewedAppends : List (String × String) :=
  [ ("(*github.com/zmap/zlint/v3/lints/cabf_br.onionNotValid).Execute", "Certificate.DNSNames"),
    ("(*github.com/zmap/zlint/v3/lints/cabf_br.torServiceDescHashInvalid).Execute", "Certificate.DNSNames"),
    ("github.com/zmap/zlint/v3/util.CertificateSubjInTLD", "Certificate.DNSNames"),
    ("github.com/zmap/zlint/v3/util.IsOnionV2Cert", "Certificate.DNSNames"),
    ("github.com/zmap/zlint/v3/util.IsOnionV3Cert", "Certificate.DNSNames") ]

theorem object_appends_reviewed : objAppends.all (fun a => reviewedAppends.contains a) = true := by decide +kernel

/-- package-level variables are written outside `init` only by the registration API -/
def registrationAPI : List String :=
  [ "github.com/zmap/zlint/v3/lint.RegisterCertificateLint", "github.com/zmap/zlint/v3/lint.RegisterOcspResponseLint",
    "github.com/zmap/zlint/v3/lint.RegisterRevocationListLint", "github.com/zmap/zlint/v3/lint.RegisterLint",
    "github.com/zmap/zlint/v3/lint.RegisterProfile" ]

theorem no_global_writes : globalWrites.all (fun w => registrationAPI.contains w.1) = true
    ∧ registrations.all (fun r => r.globalsWritten.isEmpty) = true := by decide +kernel

/-- packages of pure computation that code on the linting path may call freely -/
def purePackages : List String :=
  [ "fmt", "strings", "bytes", "errors", "sort", "unicode", "unicode/utf8", "unicode/utf16", "strconv", "math/big", "regexp",
    "math", "math/bits", "encoding/binary", "encoding/base64", "encoding/pem", "slices", "maps", "cmp", "html", "hash", "hash/fnv",
    "crypto/sha1", "crypto/sha256", "crypto/sha512", "crypto/md5", "crypto/elliptic", "crypto/subtle",
    "net/url", "net/mail", "encoding/hex", "encoding/asn1", "encoding/base32", "encoding/json", "reflect",
    "crypto/ecdsa", "crypto/rsa", "crypto/x509/pkix",
    "golang.org/x/text/unicode/norm", "golang.org/x/net/idna", "golang.org/x/crypto/cryptobyte", "golang.org/x/crypto/cryptobyte/asn1",
    "golang.org/x/crypto/ocsp",
    "github.com/zmap/zcrypto/encoding/asn1", "github.com/zmap/zcrypto/x509/ct", "github.com/zmap/zcrypto/x509/pkix",
    "github.com/zmap/zcrypto/dsa", "github.com/zmap/zcrypto/cryptobyte", "github.com/zmap/zcrypto/cryptobyte/asn1", "github.com/zmap/zcrypto/util" ]

def purePackageKeys : List Nat := purePackages.map keyOf

/-- kernel-reducible prefix test -/
def startsWithK (s p : String) : Bool := p.toList.isPrefixOf s.toList

/-- the prefix test on the UTF-8 bytes. For the kernel a literal *is* its bytes; getting the characters back
    (`String.toList`) costs it several times more, so table theorems evaluate this test and conclude by
    `startsWithK_eq_false`. -/
def startsWithB (s p : String) : Bool := p.toByteArray.data.toList.isPrefixOf s.toByteArray.data.toList

/-- a prefix in characters is a prefix in bytes -/
theorem startsWithK_eq_false {s p : String} (h : startsWithB s p = false) : startsWithK s p = false := by
  refine Bool.eq_false_iff.mpr fun hk => Bool.eq_false_iff.mp h ?_
  obtain ⟨t, ht⟩ := List.isPrefixOf_iff_prefix.mp hk
  have hs : s = p ++ String.ofList t := by
    rw [← String.toList_inj, String.toList_append, String.toList_ofList, ht]
  rw [startsWithB, List.isPrefixOf_iff_prefix, hs, String.toByteArray_append, ByteArray.data_append, Array.toList_append]
  exact List.prefix_append _ _

/-- function-level rules for the packages that also contain I/O, clock, or shared-state primitives -/
def allowedSpecial (grp pkg callee : String) : Bool :=
  if pkg == "net" then
    callee == "net.ParseIP" || callee == "net.ParseCIDR" || callee == "net.init" || callee == "net.CIDRMask"
      || startsWithK callee "(net.IP)." || startsWithK callee "(*net.IPNet)." || startsWithK callee "(net.IPMask)."
  else if pkg == "time" then
    -- no sleeping, no timers; values, formatting and arithmetic only. `time.Now` is admitted here because every
    -- one of its callers on the linting path must be in `documentedSensitive` (theorem `sensitive_calls_documented`).
    -- Nothing that yields a value in the process's local zone or consults the zone database either (`time.Unix…`, `Local`,
    -- `In`, `LoadLocation`, the variable `time.Local`): calendar arithmetic on such a value depends on TZ / /etc/localtime.
    -- Parsed times carry UTC or the fixed offset they were written with; `Location()` only reads that.
    !(callee == "time.Since" || callee == "time.Until" || callee == "time.Sleep" || callee == "time.After"
      || callee == "time.Tick" || callee == "time.NewTimer" || callee == "time.NewTicker" || callee == "time.AfterFunc"
      || callee == "time.Unix" || callee == "time.UnixMilli" || callee == "time.UnixMicro" || callee == "(time.Time).Local"
      || callee == "(time.Time).In" || callee == "time.LoadLocation" || callee == "time.LoadLocationFromTZData"
      || callee == "time.ParseInLocation" || callee == "var time.Local")
  else if pkg == "github.com/zmap/zcrypto/x509" then
    -- parsed-object accessors yes; anything that verifies a signature or builds chains no
    !(startsWithK callee "(*github.com/zmap/zcrypto/x509.Certificate).Check" || startsWithK callee "(*github.com/zmap/zcrypto/x509.Certificate).Verify"
      || startsWithK callee "(*github.com/zmap/zcrypto/x509.Certificate).CreateCRL" || startsWithK callee "github.com/zmap/zcrypto/x509.Create"
      || startsWithK callee "github.com/zmap/zcrypto/x509.SystemCertPool")
  else if pkg == "sync" then
    -- only the read lock of the lookups, in package lint
    grp == "lint" && (callee == "(*sync.RWMutex).RLock" || callee == "(*sync.RWMutex).RUnlock" || callee == "sync.init")
  else if pkg == "os" then
    -- only NewConfigFromFile (checked by caller below)
    grp == "lint" && (callee == "os.Open" || callee == "(*os.File).Close" || callee == "os.init")
  else if pkg == "io" then grp == "lint"                       -- WriteJSON writes to the writer it is handed
  else if pkg == "github.com/pelletier/go-toml" then grp == "lint"
  else false

/-- **I/O freedom**: every call leaving the module from the linting path goes to a pure package or passes
    a function-level rule (no os/exec, syscall, net dialing or lookups, http, rand, environment, clock
    except the documented sites below, no sync primitives except the lookups' read lock). -/
theorem external_calls_allowed :
    lintPathCalls.all (fun c => purePackageKeys.contains c.2.1 || allowedSpecial c.1 c.2.2.1 c.2.2.2) = true := by decide +kernel

/-- the documented exceptions, by (callee, caller): the time stamp of the three entry points, the two
    lints that compare host names with today's TLD table, the configuration file reader -/
def documentedSensitive : List (String × String) :=
  [ ("time.Now", "github.com/zmap/zlint/v3.LintCertificateEx"), ("time.Now", "github.com/zmap/zlint/v3.LintRevocationListEx"),
    ("time.Now", "github.com/zmap/zlint/v3.LintOcspResponseEx"),
    ("time.Now", "(*github.com/zmap/zlint/v3/lints/cabf_br.subCertAIAInternalName).Execute"),
    ("time.Now", "(*github.com/zmap/zlint/v3/lints/cabf_smime_br.smimeAIAContainsInternalNames).Execute"),
    ("os.Open", "github.com/zmap/zlint/v3/lint.NewConfigFromFile"), ("(*os.File).Close", "github.com/zmap/zlint/v3/lint.NewConfigFromFile"),
    ("os.init", "github.com/zmap/zlint/v3/lint.init") ]

theorem sensitive_calls_documented :
    sensitiveCalls.all (fun p => documentedSensitive.contains p) = true := by decide +kernel

/-- no goroutine is started by module code -/
theorem no_goroutines : goroutineSpawns = [] := by decide

/-- map-range sites: either provably order-free by the extractor's syntactic test, or reviewed here:
    the site's result is sorted before use / only builds sets / is outside the linting path -/
def reviewedMapRanges : List (String × Nat) :=
  [ ("(*github.com/zmap/zlint/v3/formattedoutput.resultsTable).newRT", 2), ("(*github.com/zmap/zlint/v3/formattedoutput.resultsTable).newRT", 3),
    ("(*github.com/zmap/zlint/v3/lint.linterLookupImpl).Sources", 0), ("(*github.com/zmap/zlint/v3/lint.registryImpl).Sources", 0),
    ("(*github.com/zmap/zlint/v3/lint.registryImpl).defaultConfiguration", 0), ("(*github.com/zmap/zlint/v3/lint.registryImpl).defaultConfiguration", 1),
    ("(*github.com/zmap/zlint/v3/lint.registryImpl).defaultConfiguration", 2),
    ("(*github.com/zmap/zlint/v3/lints/cabf_br.torServiceDescHashInvalid).Execute", 0),   -- collects keys, sorted before use (fix 5daa076)
    ("(*github.com/zmap/zlint/v3/lints/rfc.ecdsaInvalidKU).Execute", 0),                  -- result sorted before formatting
    ("(*github.com/zmap/zlint/v3/lints/rfc.extDuplicateExtension).Execute", 0),           -- sorted before joining (fix ade8042)
    ("github.com/zmap/zlint/v3/lint.AllProfiles", 0),
    ("github.com/zmap/zlint/v3/util.GetKeyUsageStrings", 0),                              -- sorted before return (fix 880d058)
    ("github.com/zmap/zlint/v3/util.init#1", 0) ]

theorem map_ranges_ok : mapRanges.all (fun m => m.autoFree || reviewedMapRanges.contains (m.fn, m.ordinal)) = true := by decide +kernel

/-- non-vacuity of (1): a read-only call exists, a non-read-only one is excluded by the hypothesis -/
example : (⟨fun g o => (g + o, g, o)⟩ : Eff Nat Nat Nat).readOnly ∧ ¬ (⟨fun g o => (g + o, g + 1, o)⟩ : Eff Nat Nat Nat).readOnly := by
  constructor
  · intro g o; rfl
  · intro h; have := h 0 0; simp at this

end Zl.C05
