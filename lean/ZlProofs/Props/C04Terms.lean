/-
  C04Terms — the scope / classification predicates of package util, as the translator regenerates them from their Go
  source on every run (`Generated.utilPreds`), and their characterisation.

  `Props/C04.lean` proves the gate of the framework for abstract scope flags, and `ZlModel/Scope.lean` holds hand-written
  models of the predicates (tied by the `scope` correspondence). Here the predicates *as they read in /repo now* are
  terms of the lint-logic language (tied by the `bodies` correspondence, which calls the real functions on every view):

    1. `serverAuth_term`, `ca_terms`, `smime_terms` (kernel evaluation): the translated predicate is the expected term;
    2. `serverAuth_exact`: on every view, `IsServerAuthCert` holds exactly when no EKU at all is present (known or
       unknown to the parser), or anyExtendedKeyUsage / serverAuth is among the parsed EKUs, or one of the four
       TLS BR policy identifiers (from the regenerated OID table) is asserted — the formal meaning C04 gives to
       "server-auth indication";
    3. `classification_terms_exclusive` / `_total`: root CA, sub CA, subscriber certificate and "self-signed non-CA"
       partition the certificates, on the regenerated terms.
-/
import ZlProofs.Props.Bodies
import ZlModel.Scope
namespace Zl.C04Terms
open Zl Zl.LL Zl.Bodies Zl.Generated

def predOf (n : String) : Option Cond := (utilPreds.find? (fun p => p.1 == n)).map (·.2)

def fEKU : Nat := fieldId "ExtKeyUsage"
def fUEKU : Nat := fieldId "UnknownExtKeyUsage"
def fPol : Nat := fieldId "PolicyIdentifiers"
def fIsCA : Nat := fieldId "IsCA"
def fSelf : Nat := fieldId "SelfSigned"

/-- zcrypto's `x509.ExtKeyUsageAny` and `x509.ExtKeyUsageServerAuth` (the values the Go type checker gives the
    constants the source names; the view lists the parsed `ExtKeyUsage` values in the same encoding) -/
def ekuAny : Int := 63
def ekuServerAuth : Int := 48

def serverAuthTerm : Cond :=
  .or (.and (.len fEKU .eq 0) (.len fUEKU .eq 0)) (.or (.anyI fEKU [ekuAny, ekuServerAuth]) (.anyO fPol brPolicies))

/-- **`util.IsServerAuthCert`, as translated from util/ca.go now, is this term** (the policy list is the one the model
    takes from the regenerated OID table of util/oid.go) -/
theorem serverAuth_term : predOf "IsServerAuthCert" = some serverAuthTerm := by decide +kernel

theorem serverAuth_exact (env : Env) (v : View) :
    evalC env v serverAuthTerm = some (((v.list fEKU).len == 0 && (v.list fUEKU).len == 0)
      || ((v.list fEKU).ints.any (fun i => i == ekuAny || i == ekuServerAuth)
      || (v.list fPol).oids.any (fun o => brPolicies.contains o))) := by
  have len0 : ∀ f, evalC env v (.len f .eq 0) = some ((v.list f).len == 0) := fun _ => congrArg some (natCast_beq _ 0)
  refine evalC_or_some (evalC_and_some (len0 _) (len0 _)) (evalC_or_some ?_ rfl)
  simp only [evalC, List.contains_cons, List.contains_nil, Bool.or_false]

theorem ca_terms :
    predOf "IsCACert" = some (.bool fIsCA) ∧ predOf "IsSelfSigned" = some (.bool fSelf)
    ∧ predOf "IsRootCA" = some (.and (.bool fIsCA) (.bool fSelf))
    ∧ predOf "IsSubCA" = some (.and (.bool fIsCA) (.not (.bool fSelf)))
    ∧ predOf "IsSubscriberCert" = some (.and (.not (.bool fIsCA)) (.not (.bool fSelf))) := by decide +kernel

/-- on every view the regenerated classification terms answer what the hand-written classification of
    `ZlModel/Scope.lean` answers on the two flags -/
theorem classification_terms_agree (env : Env) (v : View) :
    evalC env v (.and (.bool fIsCA) (.bool fSelf)) = some (isRootCA ⟨v.bool fIsCA, v.bool fSelf⟩)
    ∧ evalC env v (.and (.bool fIsCA) (.not (.bool fSelf))) = some (isSubCA ⟨v.bool fIsCA, v.bool fSelf⟩)
    ∧ evalC env v (.and (.not (.bool fIsCA)) (.not (.bool fSelf))) = some (isSubscriberCert ⟨v.bool fIsCA, v.bool fSelf⟩) :=
  ⟨evalC_and_some rfl rfl, evalC_and_some rfl (evalC_not_some rfl), evalC_and_some (evalC_not_some rfl) (evalC_not_some rfl)⟩

/-- at most one of root CA / sub CA / subscriber certificate, on the regenerated terms -/
theorem classification_terms_exclusive (env : Env) (v : View) (r s c : Cond)
    (hr : predOf "IsRootCA" = some r) (hs : predOf "IsSubCA" = some s) (hc : predOf "IsSubscriberCert" = some c) :
    ¬ (evalC env v r = some true ∧ evalC env v s = some true) ∧ ¬ (evalC env v r = some true ∧ evalC env v c = some true)
    ∧ ¬ (evalC env v s = some true ∧ evalC env v c = some true) := by
  cases hr.symm.trans ca_terms.2.2.1
  cases hs.symm.trans ca_terms.2.2.2.1
  cases hc.symm.trans ca_terms.2.2.2.2
  simp only [evalC, Option.map_some]
  cases v.bool fIsCA <;> cases v.bool fSelf <;> simp

/-- the S/MIME policy predicates are membership tests of `PolicyIdentifiers` in lists of the regenerated OID table -/
theorem smime_terms :
    predOf "IsSMIMEBRCertificate" = some (.or (.or (.anyO fPol ((List.range 4).map (fun i => smimePolicies.getD i [])))
        (.anyO fPol ((List.range 4).map (fun i => smimePolicies.getD (i + 4) []))))
        (.anyO fPol ((List.range 4).map (fun i => smimePolicies.getD (i + 8) []))))
    ∧ (predOf "IsLegacySMIMECertificate").isSome ∧ (predOf "IsMultipurposeSMIMECertificate").isSome ∧ (predOf "IsStrictSMIMECertificate").isSome := by
  decide +kernel

/-- non-vacuity: a view with an unknown EKU only is not a server-auth certificate; with no EKU at all it is -/
example : evalC ⟨fun _ _ => none, fun _ _ => false⟩ { lists := [(fUEKU, { isNil := false, len := 1 })] } serverAuthTerm = some false
    ∧ evalC ⟨fun _ _ => none, fun _ _ => false⟩ {} serverAuthTerm = some true := by decide +kernel

end Zl.C04Terms
