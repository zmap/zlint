/-
  C02 — No lint fails internally on any input the parser accepts.

  What is proved here, and about what:

  1. Framework (for every lint behaviour): a certificate result is the framework's report of a recovered
     panic exactly when one of the lint's stages panicked, and a CRL/OCSP execution panics exactly then
     (`raw_panic_iff`, `cert_recovered_iff`, `unrecovered_panic_iff`, `panic_free_never_recovered`).
     So C02 for a lint *is* panic-freedom of its Configure / CheckApplies / Execute on the objects the
     framework hands them.
  2. Walkers that compute their own indices, modelled with checked indexing (ZlModel/Walkers.lean):
     total for every input (`controlChar_total`, `parseBMPUnits_total`, `isNameAttribute_total`,
     `v6_indices_in_range`), and the defect the explicitText walker had before its repair
     (`controlChar_unguarded_panics`).
  3. Census (regenerated from the Go source on every run, `Generated.panicSites`): every panic-capable
     site reachable from a lint carries a guard certificate whose arithmetic the kernel re-checks
     (`Sites.discharged`, sound by ZlProofs/Lemmas/Sites.lean), or is listed — for exactly its present
     context — in the committed review `/verif/c02_reviewed_sites.json` (`all_sites_accounted`).

  PARTIAL: panic-freedom of the library functions lint bodies call (asn1, regexp, url, idna, publicsuffix,
  cryptobyte, big, reflect — assumption A-LIB), the parser facts named in the review file (A-PARSE-*),
  and the extractor's reading of dominators and value identity are trusted, not proved. The full
  statement "for every parseable object and every lint, no stage panics" is therefore *not* a theorem
  here; what is a theorem is items 1–3, and the direct search (structure-aware mutation of the corpus,
  targeted walker inputs) is run against the real code on every check.
-/
import ZlProofs.Lemmas.Thresholds
import ZlProofs.Lemmas.Sites
import ZlModel.Walkers
import ZlProofs.Lemmas.Framework
import ZlModel.Generated.PanicSites
namespace Zl.C02
open Zl Zl.Sites Zl.Walkers

/-! ## 1. the framework reports a recovered panic iff a stage panicked -/

/-- the panic message of the first stage that panics, in the order the framework runs them -/
def firstPanic {Obj Cfg : Type} (gate : Bool) (target : Time) (l : Lint Obj Cfg) (o : Obj) (cfg : Cfg) : Option String :=
  if !gate then none
  else match l.configure cfg with
    | .panic m => some m
    | .ok (some _) => none
    | .ok none =>
      match l.applies o with
      | .panic m => some m
      | .ok false => none
      | .ok true =>
        if !checkEffective l.md.eff l.md.ineff target then none
        else match l.body o with
          | .panic m => some m
          | _ => none

theorem raw_panic_iff {Obj Cfg : Type} (gate : Bool) (t : Time) (l : Lint Obj Cfg) (o : Obj) (cfg : Cfg) (m : String) :
    (executeRaw gate t l o cfg).1 = .panic m ↔ firstPanic gate t l o cfg = some m := by
  fun_cases executeRaw gate t l o cfg <;> simp_all [firstPanic]

/-- Certificates: the result is the recovered-panic report exactly when a stage panicked. -/
theorem cert_recovered_iff {Obj Cfg : Type} (sc : Scope) (t : Time) (l : Lint Obj Cfg) (o : Obj) (cfg : Cfg) (m : String)
    (h : firstPanic (inScope l.md.source sc) t l o cfg = some m) :
    (execute .cert sc t l o cfg).1 = .result Status.fatal (panicDetails l.md.name m) := by
  have := (raw_panic_iff (inScope l.md.source sc) t l o cfg m).mpr h
  simp [execute, this, recoverExec]

/-- … and when no stage panics, the certificate result is what the stages produced (no recovery involved). -/
theorem cert_not_recovered {Obj Cfg : Type} (sc : Scope) (t : Time) (l : Lint Obj Cfg) (o : Obj) (cfg : Cfg)
    (h : firstPanic (inScope l.md.source sc) t l o cfg = none) :
    (execute .cert sc t l o cfg).1 = (executeRaw (inScope l.md.source sc) t l o cfg).1 ∧
    ∀ m, (executeRaw (inScope l.md.source sc) t l o cfg).1 ≠ .panic m := by
  have hn : ∀ m, (executeRaw (inScope l.md.source sc) t l o cfg).1 ≠ .panic m := fun m hm => by
    simp [(raw_panic_iff _ t l o cfg m).mp hm] at h
  refine ⟨?_, hn⟩
  simp only [execute]
  cases hr : (executeRaw (inScope l.md.source sc) t l o cfg).1 with
  | panic m => exact absurd hr (hn m)
  | _ => rfl

/-- CRL / OCSP (no recovery net): the execution panics exactly when a stage panics. -/
theorem unrecovered_panic_iff {Obj Cfg : Type} (k : Kind) (hk : k ≠ .cert) (sc : Scope) (t : Time) (l : Lint Obj Cfg)
    (o : Obj) (cfg : Cfg) (m : String) :
    (execute k sc t l o cfg).1 = .panic m ↔ firstPanic true t l o cfg = some m := by
  rw [execute_of_ne_cert hk, raw_panic_iff]

/-- A lint none of whose stages can panic is never reported as recovered and never panics a run:
    C02 for a lint reduces to panic-freedom of its three stages. -/
theorem panic_free_never_recovered {Obj Cfg : Type} (l : Lint Obj Cfg)
    (hc : ∀ cfg m, l.configure cfg ≠ .panic m) (ha : ∀ o m, l.applies o ≠ .panic m) (hb : ∀ o m, l.body o ≠ .panic m)
    (gate : Bool) (t : Time) (o : Obj) (cfg : Cfg) : firstPanic gate t l o cfg = none := by
  rw [Option.eq_none_iff_forall_ne_some]
  intro m h
  rcases (executeRaw_panic_iff.mp ((raw_panic_iff gate t l o cfg m).mpr h)).2 with hp | ⟨_, hp | ⟨_, _, hp⟩⟩
  · exact hc cfg m hp
  · exact ha o m hp
  · exact hb o m hp

/-- the hypotheses are satisfiable and the conclusion is not vacuous: a lint whose body panics *is* reported -/
example : firstPanic true Time.zero
    ({ md := { name := "e_x" }, configure := fun _ => .ok none, applies := fun _ => .ok true, body := fun _ => .panic "boom" } : Lint Unit Unit)
    () () = some "boom" := by decide

/-! ## 2. walkers with computed indices are total -/

theorem lt_of_at? {bs : List Nat} {i b : Nat} (h : at? bs i = some b) : i < bs.length := by
  simp only [at?, List.getElem?_eq_some_iff] at h
  exact h.1

theorem ccLoop_guarded (bs : List Nat) (fuel i : Nat) (h : bs.length ≤ i + fuel) :
    ccLoop true bs i fuel ≠ .panic ∧ ccLoop true bs i fuel ≠ .outOfFuel := by
  fun_induction ccLoop true bs i fuel
  -- out of fuel
  case case1 => omega
  -- the two reads: `i < len` is the loop condition, `i + 1 < len` is the guard
  case case2 hn =>
    simp [at?] at hn
    omega
  case case5 hg hn =>
    simp [at?] at hg hn
    omega
  -- a verdict
  case case3 | case6 | case14 => simp
  -- the loop goes on, at least one byte further
  all_goals next ih => exact ih (by omega)

/-- The explicitText control-character walker never indexes out of range, for **every** byte string
    (and the fuel bound of the model is never hit, so the model's verdict is the loop's verdict). -/
theorem controlChar_total (bs : List Nat) : controlChar bs ≠ .panic ∧ controlChar bs ≠ .outOfFuel :=
  ccLoop_guarded bs bs.length 0 (by omega)

/-- The defect the walker had before its repair: a UTF8String ending in 0xC2 read one byte past the end. -/
theorem controlChar_unguarded_panics : controlCharUnguarded [0xC2] = .panic := by decide

/-- the repaired code agrees with the old code wherever the old code did not panic (the repair changes nothing else) -/
theorem ccLoop_agree (bs : List Nat) : ∀ fuel i, ccLoop false bs i fuel ≠ .panic → ccLoop true bs i fuel = ccLoop false bs i fuel := by
  intro fuel i
  fun_induction ccLoop false bs i fuel
  all_goals intro hp
  all_goals rw [ccLoop.eq_def true]
  -- Three branches consult the guard. Reading past the end: the old code panics, excluded by `hp`. Reading a
  -- byte: then `i + 1 < len`, the guard holds. A byte other than 0xc2: neither version reads.
  case case5 => exact absurd rfl hp
  case case6 h _ hc _ | case7 h _ hc _ _ =>
    have := lt_of_at? hc
    simp at h
    simp [*]
  case case8 h _ =>
    simp at h
    simp [*]
  all_goals simp [*]

theorem bmpLoop_total (fuel : Nat) (b acc : List Nat) (hev : b.length % 2 = 0) (hle : b.length ≤ 2 * fuel) :
    bmpLoop b fuel acc ≠ .panic := by
  fun_induction bmpLoop b fuel acc
  case case1 => simp
  -- out of fuel
  case case2 => simp at hle
  case case3 ih =>
    simp only [List.length_drop] at ih
    exact ih (by omega) (by omega)
  -- `b[2:]` after `b[1]` was read
  case case4 h1 _ hlt =>
    have := (List.getElem?_eq_some_iff.mp h1).1
    omega
  -- a non-empty string of even length has two bytes to read
  case case5 b _ _ hne hx =>
    match b, hne, hev, hx with
    | [_], _, hev, _ => simp at hev
    | x :: y :: _, _, _, hx => exact (hx x y rfl rfl).elim

/-- `util.ParseBMPString` never indexes out of range: an odd length is an error, never a panic. -/
theorem parseBMPUnits_total (b : List Nat) : parseBMPUnits b ≠ .panic := by
  fun_cases parseBMPUnits b
  · simp
  · next hodd _ _ =>
    have hev : b.length % 2 = 0 := by simpa using hodd
    refine bmpLoop_total _ _ _ ?_ (by omega)
    show (if _ then _ else _ : List Nat).length % 2 = 0
    split
    · simp only [List.length_take]; omega
    · exact hev

theorem parseBMP_total (b : List Nat) : (parseBMP b).isSome = true := by
  unfold parseBMP
  cases h : parseBMPUnits b with
  | panic => exact absurd h (parseBMPUnits_total b)
  | err => rfl
  | ok us => rfl

theorem parseBMP_odd_is_error (b : List Nat) (h : b.length % 2 = 1) : parseBMP b = some none := by
  unfold parseBMP parseBMPUnits
  simp [h]

theorem isNameAttribute_total (oid : List Nat) : isNameAttribute oid ≠ .panic := by
  fun_cases isNameAttribute oid
  -- `oid[3]` and `oid[0:3]`, with `len(oid) = 4`
  case case3 h4 _ _ hn =>
    simp at h4 hn
    omega
  case case5 h4 h3 =>
    simp at h4
    omega
  all_goals simp

/-- `IsFQDN`'s prefix stripping ends (the model is structurally recursive) and leaves no `?.` in front;
    what it returns is a suffix of its input -/
theorem removeQuestionMarks_no_prefix : ∀ (s : List Nat), ∀ rest, removeQuestionMarks s ≠ 63 :: 46 :: rest := by
  intro s rest
  fun_induction removeQuestionMarks s with
  | case1 _ ih => exact ih
  | case2 s hne => exact hne rest

theorem removeQuestionMarks_suffix : ∀ (s : List Nat), ∃ pre, s = pre ++ removeQuestionMarks s := by
  intro s
  fun_induction removeQuestionMarks s with
  | case1 _ ih =>
    obtain ⟨pre, hp⟩ := ih
    exact ⟨63 :: 46 :: pre, congrArg (63 :: 46 :: ·) hp⟩
  | case2 s _ => exact ⟨[], rfl⟩

example : fqdnArg [42, 46, 63, 46, 63, 46, 97] = [97] ∧ fqdnArg [63, 97] = [63, 97] ∧ fqdnArg [42] = [42] ∧ fqdnArg [42, 97, 46] = [42, 97, 46] := by decide

/-- `e_subject_dn_not_printable_characters`: the `bytes = bytes[size:]` re-slice after `utf8.DecodeRune` never
    leaves the string, for every attribute value (1 ≤ size ≤ len for non-empty input — `decodeRune_size`), and
    the walk ends -/
theorem dn_printable_walk_total (values : List (List Nat)) : Zl.Thresholds.dnNotPrintable values ≠ .panic := by
  fun_induction Zl.Thresholds.dnNotPrintable values with
  | case1 => simp
  | case2 _ _ _ ih => exact ih
  | case3 v => exact Zl.Thresholds.printableWalk_total _ v (Nat.le_refl _)

example : Zl.Thresholds.dnNotPrintable [[0x41, 0xC2], [0x42]] = .pass ∧ Zl.Thresholds.dnNotPrintable [[0x41], [0x1F]] = .error
    ∧ Zl.Thresholds.dnNotPrintable [[0xC2, 0x85]] = .error ∧ Zl.Thresholds.dnNotPrintable [[0xE2, 0x82, 0xAC]] = .pass := by decide

/-- `reversedLabelsToIPv6` (32 labels, four per step, counting down): every index it touches is in range -/
theorem v6_indices_in_range : (v6AllIndices 32).all (fun i => decide (0 ≤ i) && decide (i < 32)) = true := by decide

/-- …and it touches all 32 (the loop really runs; the statement above is not about an empty list) -/
example : (v6AllIndices 32).length = 32 := by decide

/-! ## 3. the census of panic-capable sites -/

/-- **Every panic-capable site reachable from a lint** (regenerated from the Go source on every run) is
    discharged by a kernel-checked guard certificate or is in the committed review, for its present context. -/
theorem all_sites_accounted :
    Generated.panicSites.all (accounted Generated.reviewedSites) = true := by decide +kernel

/-- the review holds nothing stale: every entry still names an undischarged site in the context it was reviewed in -/
theorem review_not_stale :
    Generated.reviewedSites.all (fun r => Generated.panicSites.any (fun s => s.key == r.1 && s.ctx == r.2 && !discharged s.schema)) = true := by
  -- the undischarged sites are few: filter them out once instead of meeting every site again for every entry
  have h : Generated.reviewedSites.all (fun r =>
      (Generated.panicSites.filter (fun s => !discharged s.schema)).any (fun s => s.key == r.1 && s.ctx == r.2)) = true := by
    decide +kernel
  simpa only [List.any_filter, Bool.and_comm (!discharged _)] using h

/-- the census is not empty (the obligation above is about ~1,100 sites, not about `[]`) -/
theorem census_nonempty : decide (500 < Generated.panicSites.length) = true := by decide +kernel

end Zl.C02
