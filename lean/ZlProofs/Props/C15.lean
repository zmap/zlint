/-
  C15 — The CLI reports what the library computes and fails closed.

  Partial: only the decision logic is proved (dispatch, format override, counting). That the binary
  prints exactly the library's results, exits non-zero with empty stdout on undecodable input and
  unknown selectors, is observed by running the built binary against the library (search), not proved.
-/
import ZlModel.Cli
import ZlModel.Generated.Tables
namespace Zl.C15
open Zl Generated

/-- every (format, PEM type, base64 validity) goes to exactly one of certificate / CRL / failure — the
    function is total — and the cases are exactly these -/
theorem dispatch_total (inform : String) (pemType : Option String) (b64ok : Bool) :
    dispatch inform pemType b64ok = .cert ∨ dispatch inform pemType b64ok = .crl ∨ dispatch inform pemType b64ok = .fail := by
  cases h : dispatch inform pemType b64ok <;> simp

theorem dispatch_cert_iff (inform : String) (pemType : Option String) (b64ok : Bool) :
    dispatch inform pemType b64ok = .cert ↔
      (inform = "pem" ∧ pemType = some "CERTIFICATE") ∨ inform = "der" ∨ (inform = "base64" ∧ b64ok = true) := by
  fun_cases dispatch inform pemType b64ok <;> simp_all

/-- a CRL is only ever recognised through its PEM armor -/
theorem dispatch_crl_iff (inform : String) (pemType : Option String) (b64ok : Bool) :
    dispatch inform pemType b64ok = .crl ↔ inform = "pem" ∧ pemType = some "X509 CRL" := by
  fun_cases dispatch inform pemType b64ok <;> simp_all

/-- **The three encodings of one certificate dispatch identically** (to the certificate parser) -/
theorem encodings_agree : dispatch "pem" (some "CERTIFICATE") false = .cert ∧ dispatch "der" none false = .cert
    ∧ dispatch "base64" none true = .cert := by decide

/-- unknown formats, missing or foreign PEM armor and broken base64 fail -/
theorem fails_closed : dispatch "pem" none true = .fail ∧ dispatch "pem" (some "PRIVATE KEY") true = .fail
    ∧ dispatch "base64" none false = .fail ∧ dispatch "xml" (some "CERTIFICATE") true = .fail := by decide

/-- **what follows the first PEM block plays no part**: a second certificate, a CRL or anything else after it changes neither
    what the input is linted as nor which bytes are linted -/
theorem later_blocks_ignored (b : String × List Nat) (rest rest' : List (String × List Nat)) :
    dispatchBlocks (b :: rest) = dispatchBlocks (b :: rest') := rfl

theorem first_block_decides (t : String) (der : List Nat) (rest : List (String × List Nat)) :
    dispatchBlocks ((t, der) :: rest) = (dispatch "pem" (some t) false, der) := rfl

/-- per-file override: the suffix decides, the second file never inherits the first file's format -/
theorem fileFormat_suffix (flag : String) : fileFormat flag "a.der" = "der" ∧ fileFormat flag "b.pem" = "pem" := by
  constructor <;> rfl

/-- the levels of the summary are exactly info, warn, error, fatal — every level above pass, once, ascending -/
theorem summary_levels : summaryLevels (statusLabelTable.map (·.2)) = [4, 5, 6, 7] := by decide

/-- **The counts in the summary equal the counts of the results**, for every level above pass. -/
theorem summary_counts (results : List Int) :
    summaryTable (statusLabelTable.map (·.2)) results = [(4, results.count 4), (5, results.count 5), (6, results.count 6), (7, results.count 7)] := by
  unfold summaryTable
  rw [summary_levels]
  rfl

theorem summary_counts_spec (results : List Int) (l : Int) (hl : l ∈ [4, 5, 6, 7]) :
    (l, (results.filter (· == l)).length) ∈ summaryTable (statusLabelTable.map (·.2)) results := by
  rw [summary_counts, ← List.count_eq_length_filter]
  simp only [List.mem_cons, List.not_mem_nil, or_false] at hl
  rcases hl with rfl | rfl | rfl | rfl <;> simp

end Zl.C15
