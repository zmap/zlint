/-
  C16 — RSA key-quality verdicts are arithmetically exact.
-/
import ZlModel.Rsa
import ZlProofs.Lemmas.Tables
-- No proof below uses a Mathlib tactic or lemma. The imports stay because the statements were written under them: with
-- Mathlib loaded `2 ^ k` on `Nat` elaborates through `Monoid.npow`, without it through `instPowNat`.
import Mathlib.Tactic.Ring
import Mathlib.Tactic.Linarith
namespace Zl.C16
open Zl

/-! ### bit length -/

theorem bitLen_lt_iff (n k : Nat) (hk : 0 < k) : bitLen n < k ↔ n < 2 ^ (k - 1) := by
  unfold bitLen
  split
  · next h0 => subst h0; exact ⟨fun _ => Nat.two_pow_pos _, fun _ => hk⟩
  · next h0 => rw [← Nat.log2_lt h0]; omega

/-- **Size lints**: error ⇔ the modulus is shorter than the stated minimum ⇔ N < 2^(k-1). -/
theorem modLessThan_iff (k n : Nat) (hk : 0 < k) : modLessThan k n = Status.error ↔ n < 2 ^ (k - 1) := by
  simp [modLessThan, Status.error, Status.pass, bitLen_lt_iff n k hk]

theorem mod_lt_2048 (n : Nat) : modLessThan 2048 n = Status.error ↔ n < 2 ^ 2047 := modLessThan_iff 2048 n (by decide)
theorem mod_lt_1024 (n : Nat) : modLessThan 1024 n = Status.error ↔ n < 2 ^ 1023 := modLessThan_iff 1024 n (by decide)
theorem mod_lt_3072 (n : Nat) : modLessThan 3072 n = Status.error ↔ n < 2 ^ 3071 := modLessThan_iff 3072 n (by decide)
/-- and otherwise the verdict is pass: nothing else is ever reported -/
theorem modLessThan_total (k n : Nat) : modLessThan k n = Status.error ∨ modLessThan k n = Status.pass := by
  unfold modLessThan; split <;> simp

theorem modDiv8_iff (n : Nat) : modDiv8 n = Status.error ↔ bitLen n % 8 ≠ 0 := by
  simp [modDiv8, Status.error, Status.pass]

theorem modNotOdd_iff (n : Nat) : modNotOdd n = Status.warn ↔ 2 ∣ n := by
  simp [modNotOdd, Status.warn, Status.pass, Nat.dvd_iff_mod_eq_zero]

/-! ### exponents -/

theorem expNotOdd_iff (e : Nat) : expNotOdd e = Status.error ↔ 2 ∣ e := by
  simp [expNotOdd, Status.error, Status.pass, Nat.dvd_iff_mod_eq_zero]

theorem expTooSmall_iff (e : Nat) : expTooSmall e = Status.error ↔ e < 3 := by
  simp [expTooSmall, Status.error, Status.pass]

theorem expIsOne_iff (e : Nat) : expIsOne e = Status.error ↔ e = 1 := by
  simp [expIsOne, Status.error, Status.pass]

/-- for every exponent the parser can deliver (a positive Go int, E < 2^63) the upper bound 2^256 is
    unreachable, so the lint decides exactly `E < 65537` -/
theorem expNotInRange_iff (e : Nat) (he : e < 2 ^ 63) : expNotInRange e = Status.warn ↔ e < 65537 := by
  have h256 : e < 2 ^ 256 := Nat.lt_of_lt_of_le he (Nat.pow_le_pow_right (by decide) (by decide))
  rw [expNotInRange, decide_eq_true h256, Bool.and_true]
  simp [Status.warn, Status.pass]

/-! ### small factors -/

open Generated

/-- every table entry is a divisor candidate in 2..751 -/
theorem table_range : primes.all (fun p => decide (2 ≤ p) && decide (p < 752)) = true := by decide +kernel

/-- every number 2..751 has a divisor in the table (so the table misses no prime below 752) -/
theorem table_covers : (List.range 752).all (fun d => decide (d < 2) || primes.any (fun p => d % p == 0)) = true := by decide +kernel

def isPrimeB (p : Nat) : Bool := decide (2 ≤ p) && (List.range p).all (fun d => decide (d < 2) || decide (d * d > p) || p % d != 0)

/-- trial division may stop at any `b` beyond the square root: the larger candidates pass the `d * d > p` clause -/
theorem isPrimeB_of_sqrt {p b : Nat} (hb : p < b * b) (h2 : 2 ≤ p)
    (h : (List.range b).all (fun d => decide (d < 2) || decide (d * d > p) || p % d != 0) = true) : isPrimeB p = true := by
  simp only [isPrimeB, Bool.and_eq_true, Bool.or_eq_true, decide_eq_true_eq, List.all_eq_true, List.mem_range] at h ⊢
  refine ⟨h2, fun d _ => ?_⟩
  by_cases hd : d < b
  · exact h d hd
  · exact .inl (.inr (Nat.lt_of_lt_of_le hb (Nat.mul_le_mul (Nat.le_of_not_lt hd) (Nat.le_of_not_lt hd))))

/-- the table holds only primes, each once -/
theorem table_entries_prime : primes.all isPrimeB = true ∧ strictSorted (msort primes) = true := by
  refine ⟨List.all_eq_true.mpr fun p hp => ?_, by decide +kernel⟩
  -- all entries are below 752 < 28²
  have h : primes.all (fun p => decide (p < 28 * 28) && decide (2 ≤ p)
      && (List.range 28).all (fun d => decide (d < 2) || decide (d * d > p) || p % d != 0)) = true := by decide +kernel
  have := List.all_eq_true.mp h p hp
  simp only [Bool.and_eq_true, decide_eq_true_eq] at this
  exact isPrimeB_of_sqrt this.1.1 this.1.2 this.2

/-- **A factor below 752**: warn ⇔ some d with 2 ≤ d < 752 divides the modulus. -/
theorem modSmallFactor_iff (n : Nat) : modSmallFactor primes n = Status.warn ↔ ∃ d, 2 ≤ d ∧ d < 752 ∧ d ∣ n := by
  have hw : modSmallFactor primes n = Status.warn ↔ ∃ p ∈ primes, p ∣ n := by
    simp [modSmallFactor, primeNoSmallerThan752, Status.warn, Status.pass, Nat.dvd_iff_mod_eq_zero]
  rw [hw]
  constructor
  · rintro ⟨p, hp, hpn⟩
    obtain ⟨h2, h752⟩ : 2 ≤ p ∧ p < 752 := by simpa using List.all_eq_true.mp table_range p hp
    exact ⟨p, h2, h752, hpn⟩
  · rintro ⟨d, h2, h752, hd⟩
    obtain ⟨p, hp, hpd⟩ : ∃ p ∈ primes, p ∣ d := by
      simpa [Nat.not_lt.mpr h2, Nat.dvd_iff_mod_eq_zero] using List.all_eq_true.mp table_covers d (List.mem_range.mpr h752)
    exact ⟨p, hp, Nat.dvd_trans hpd hd⟩

/-! ### Fermat factorisation -/

theorem sqrt_mul_self (k : Nat) : Nat.sqrt (k * k) = k := by
  have a : Nat.sqrt (k * k) ≤ k := Nat.mul_self_le_mul_self_iff.mp (Nat.sqrt_le (k * k))
  have b : k < Nat.sqrt (k * k) + 1 := Nat.mul_self_lt_mul_self_iff.mp (Nat.lt_succ_sqrt (k * k))
  omega

/-- the perfect-square test of the loop is exact -/
theorem isSquare_iff (m : Nat) : (Nat.sqrt m * Nat.sqrt m == m) = true ↔ ∃ b, b * b = m := by
  constructor
  · intro h; exact ⟨Nat.sqrt m, by simpa using h⟩
  · rintro ⟨b, rfl⟩; rw [sqrt_mul_self]; exact beq_self_eq_true _

/-- **Soundness**: any factorisation the loop reports multiplies back to the modulus (for every
    starting point whose square is at least `n`, which holds along the whole run). -/
theorem fermatLoop_sound (n : Nat) : ∀ (r a : Nat), n ≤ a * a → ∀ p q, fermatLoop n r a = some (p, q) → p * q = n := by
  intro r
  induction r with
  | zero => intro a _ p q h; simp [fermatLoop] at h
  | succ r ih =>
    intro a ha p q h
    simp only [fermatLoop] at h
    split at h
    · next hsq =>
      -- (a + b) (a - b) = a² - b², where b² = a² - n
      obtain ⟨rfl, rfl⟩ : a + Nat.sqrt (a * a - n) = p ∧ a - Nat.sqrt (a * a - n) = q := by simpa using h
      rw [← Nat.mul_self_sub_mul_self_eq, eq_of_beq hsq]
      omega
    · exact ih (a + 1) (Nat.le_trans ha (Nat.mul_self_le_mul_self (Nat.le_succ a))) p q h

theorem start_sq_ge (n : Nat) : n ≤ (Nat.sqrt n + 1) * (Nat.sqrt n + 1) := Nat.le_of_lt (Nat.lt_succ_sqrt n)

theorem fermat_sound (n r p q : Nat) (h : fermat n r = some (p, q)) : p * q = n :=
  fermatLoop_sound n r _ (start_sq_ge n) p q h

/-- the number under the square root is never negative: `a² ≥ n` at every step (so `big.Int.Sqrt`
    cannot panic — used by C02) -/
theorem fermat_no_negative_sqrt (n i : Nat) : n ≤ (Nat.sqrt n + 1 + i) * (Nat.sqrt n + 1 + i) :=
  Nat.le_trans (start_sq_ge n) (Nat.mul_self_le_mul_self (Nat.le_add_right _ i))

/-- the loop succeeds as soon as one of its `r` candidates is a perfect-square hit -/
theorem fermatLoop_complete (n : Nat) : ∀ (r a i : Nat), i < r → (∃ b, b * b = (a + i) * (a + i) - n) → (fermatLoop n r a).isSome = true := by
  intro r
  induction r with
  | zero => intro a i hi; omega
  | succ r ih =>
    intro a i hi hsq
    simp only [fermatLoop]
    split
    · rfl
    · next hns =>
      cases i with
      | zero => exact absurd ((isSquare_iff _).mpr hsq) hns
      | succ i => exact ih (a + 1) i (by omega) (by rwa [Nat.add_assoc, Nat.add_comm 1 i])

/-- a difference of two squares `n = s² - d²` with `d > 0` is found when `s` lies within `r` steps above ⌊√n⌋ -/
theorem fermat_of_sq (n s d r : Nat) (h : s * s = n + d * d) (hd : 0 < d) (hr : s < Nat.sqrt n + 1 + r) :
    (fermat n r).isSome = true := by
  have hd2 := Nat.mul_pos hd hd
  have hlt : Nat.sqrt n < s := Nat.mul_self_lt_mul_self_iff.mp (Nat.lt_of_le_of_lt (Nat.sqrt_le n) (by omega))
  obtain ⟨i, rfl⟩ : ∃ i, s = Nat.sqrt n + 1 + i := ⟨s - (Nat.sqrt n + 1), by omega⟩
  exact fermatLoop_complete n r _ i (by omega) ⟨d, by omega⟩

/-- **Completeness**: a product of two distinct odd primes (indeed any two odd numbers p < q) whose
    mean lies within `r` steps above ⌊√n⌋+1 is factored — the lint reports the error. -/
theorem fermat_complete (n p q r : Nat) (hn : n = p * q) (hpq : p < q) (hp : p % 2 = 1) (hq : q % 2 = 1)
    (hr : (p + q) / 2 < Nat.sqrt n + 1 + r) : (fermat n r).isSome = true := by
  -- q - p is even; with d half of it, n = (p + d)² - d², and p + d is the mean
  obtain ⟨d, hd⟩ := Nat.dvd_of_mod_eq_zero (Nat.sub_mod_eq_zero_of_mod_eq (hq.trans hp.symm))
  obtain rfl : q = p + 2 * d := (Nat.sub_eq_iff_eq_add' (Nat.le_of_lt hpq)).mp hd
  -- `omega` pays for every `%` in the context
  clear hp hq hd
  refine fermat_of_sq n (p + d) d r ?_ (by omega) (by omega)
  simp only [hn, Nat.add_mul, Nat.mul_add, Nat.mul_comm d p, Nat.mul_left_comm p 2 d]
  omega

/-- the verdict: error exactly when the loop finds a factorisation -/
theorem fermatVerdict_iff (n r : Nat) : fermatVerdict n r = Status.error ↔ ∃ p q, fermat n r = some (p, q) ∧ p * q = n := by
  unfold fermatVerdict
  cases h : fermat n r with
  | none => simp [Status.error, Status.pass]
  | some pq =>
    obtain ⟨p, q⟩ := pq
    simp only [Option.isSome_some, ↓reduceIte, true_iff]
    exact ⟨p, q, rfl, fermat_sound n r p q h⟩

/-- non-vacuity / examples (tests): 2^2047 is the smallest 2048-bit number; 35 = 5·7 is found in one round -/
example : modLessThan 2048 (2 ^ 2047) = Status.pass ∧ modLessThan 2048 (2 ^ 2047 - 1) = Status.error :=
  ⟨(modLessThan_total 2048 _).resolve_left (mt (mod_lt_2048 _).mp (Nat.lt_irrefl _)),
   (mod_lt_2048 _).mpr (Nat.sub_lt (Nat.two_pow_pos 2047) Nat.one_pos)⟩
example : (fermat 35 6).isSome = true := fermat_complete 35 5 7 6 rfl (by decide) rfl rfl (by omega)

end Zl.C16
