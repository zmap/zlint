/-
  C04 — Out-of-scope or inapplicable objects get NA; otherwise the rule's verdict stands.
-/
import ZlModel.Scope
import ZlProofs.Lemmas.RunAll
namespace Zl.C04
open Zl

/-- Source gate: a BR / S-MIME / CS lint on a certificate outside that document's scope
    returns NA and *nothing* of the lint is run (empty call log: no constructor, no
    configure, no applicability test, no body). -/
theorem scope_gate {Obj Cfg : Type} (sc : Scope) (t : Time) (l : Lint Obj Cfg) (o : Obj) (cfg : Cfg)
    (h : inScope l.md.source sc = false) :
    execute .cert sc t l o cfg = (.result Status.na "", []) := by
  simp [execute, executeRaw, h, recoverExec]

theorem scope_gate_BR (sc : Scope) (h : sc.serverAuth = false) : inScope srcBR sc = false := by
  simp [inScope, h]
theorem scope_gate_SMIME (sc : Scope) (h : sc.emailProtection = false) : inScope srcSMIME sc = false := by
  simp [inScope, h, srcSMIME, srcBR]
theorem scope_gate_CS (sc : Scope) (h : sc.codeSigning = false) : inScope srcCS sc = false := by
  simp [inScope, h, srcCS, srcBR, srcSMIME]
/-- sources other than the three gated ones are never gated -/
theorem other_sources_not_gated (src : String) (sc : Scope)
    (h1 : src ≠ srcBR) (h2 : src ≠ srcSMIME) (h3 : src ≠ srcCS) : inScope src sc = true := by
  simp [inScope, h1, h2, h3]
/-- in-scope certificates pass the gate -/
theorem in_scope_not_gated (src : String) (sc : Scope)
    (h : sc.serverAuth = true ∧ sc.emailProtection = true ∧ sc.codeSigning = true) : inScope src sc = true := by
  simp [inScope, h.1, h.2.1, h.2.2]

/-- CRL and OCSP lints are never gated by source. -/
theorem no_gate_crl_ocsp {Obj Cfg : Type} (k : Kind) (hk : k ≠ .cert) (sc sc' : Scope) (t : Time)
    (l : Lint Obj Cfg) (o : Obj) (cfg : Cfg) :
    execute k sc t l o cfg = execute k sc' t l o cfg := by
  rw [execute_of_ne_cert hk, execute_of_ne_cert hk]

/-- An object the lint's own applicability test rejects gets NA and the body is not run. -/
theorem inapplicable_NA {Obj Cfg : Type} (k : Kind) (sc : Scope) (t : Time) (l : Lint Obj Cfg) (o : Obj) (cfg : Cfg)
    (hc : l.configure cfg = .ok none) (ha : l.applies o = .ok false) :
    (execute k sc t l o cfg).1 = .result Status.na "" ∧ Call.body ∉ (execute k sc t l o cfg).2 := by
  cases hg : gateOf k sc l <;> simp [execute_eq, executeRaw, hg, hc, ha]

/-- The body runs only after: gate passed, a fresh instance constructed and configured
    without error, and its own applicability test answered `true`, in this order, once. -/
theorem execute_only_after_applies {Obj Cfg : Type} (k : Kind) (sc : Scope) (t : Time)
    (l : Lint Obj Cfg) (o : Obj) (cfg : Cfg) (h : Call.body ∈ (execute k sc t l o cfg).2) :
    (execute k sc t l o cfg).2 = [.construct, .configure, .applies, .body]
    ∧ l.configure cfg = .ok none ∧ l.applies o = .ok true
    ∧ checkEffective l.md.eff l.md.ineff t = true
    ∧ (k = .cert → inScope l.md.source sc = true) := by
  rw [execute_eq] at h ⊢
  revert h
  fun_cases executeRaw (gateOf k sc l) t l o cfg <;> simp_all [gateOf_iff]

/-- In scope, cleanly configured, applicable, inside the window: the reported result is
    exactly what the body returns (status and details) — the framework adds, drops or alters nothing. -/
theorem verdict_stands {Obj Cfg : Type} (k : Kind) (sc : Scope) (t : Time) (l : Lint Obj Cfg) (o : Obj) (cfg : Cfg)
    (hs : k = .cert → inScope l.md.source sc = true)
    (hc : l.configure cfg = .ok none) (ha : l.applies o = .ok true)
    (hw : checkEffective l.md.eff l.md.ineff t = true) (s : Status) (d : String) (hb : l.body o = .res s d) :
    execute k sc t l o cfg = (.result s d, [.construct, .configure, .applies, .body]) := by
  simp [execute_eq, executeRaw, gateOf_iff.mpr hs, hc, ha, hw, hb]

/-- … and the result set stores exactly that, plus the lint's metadata. -/
theorem verdict_stored {Obj Cfg : Type} (k : Kind) (sc : Scope) (t : Time) (l : Lint Obj Cfg) (o : Obj) (cfg : Cfg)
    (rs : ResultSet) (s : Status) (d : String) (h : (execute k sc t l o cfg).1 = .result s d) :
    ∃ rs', stepRun k sc t o cfg (.returned rs) l = .returned rs' ∧
      rs'.results.head? = some (l.md.name, ⟨s, d, l.md⟩) := by
  simp only [stepRun, h]
  exact ⟨_, rfl, by rw [updateFlags_eq]; rfl⟩

/-- A panicking certificate-lint body is reported as fatal with the framework's marker text. -/
theorem body_panic_fatal {Obj Cfg : Type} (sc : Scope) (t : Time) (l : Lint Obj Cfg) (o : Obj) (cfg : Cfg)
    (hs : inScope l.md.source sc = true)
    (hc : l.configure cfg = .ok none) (ha : l.applies o = .ok true)
    (hw : checkEffective l.md.eff l.md.ineff t = true) (m : String) (hb : l.body o = .panic m) :
    (execute .cert sc t l o cfg).1 = .result Status.fatal (panicDetails l.md.name m) := by
  simp [execute, executeRaw, hs, hc, ha, hw, hb, recoverExec]

/-- A configuration error is reported as fatal carrying the error text; applicability and body are not consulted. -/
theorem config_error_fatal {Obj Cfg : Type} (k : Kind) (sc : Scope) (t : Time) (l : Lint Obj Cfg) (o : Obj) (cfg : Cfg)
    (hs : k = .cert → inScope l.md.source sc = true) (e : String) (hc : l.configure cfg = .ok (some e)) :
    execute k sc t l o cfg = (.result Status.fatal e, [.construct, .configure]) := by
  simp [execute_eq, executeRaw, gateOf_iff.mpr hs, hc]

/-- non-vacuity -/
def exLint : Lint Unit Unit := { md := { name := "e_x", source := "CABF_BR" }, configure := fun _ => .ok none, applies := fun _ => .ok true, body := fun _ => .res Status.warn "w" }
example : execute .cert ⟨false, true, true⟩ ⟨5, 0⟩ exLint () () = (.result Status.na "", [])
    ∧ execute .cert ⟨true, false, false⟩ ⟨5, 0⟩ exLint () () = (.result Status.warn "w", [.construct, .configure, .applies, .body]) := by
  decide

/-! ## CA classification used by CheckApplies of most lints -/

/-- root CA, subordinate CA and subscriber certificate are mutually exclusive, and the only certificates that are
    none of the three are self-signed non-CA certificates -/
theorem classification_exclusive (v : CAView) :
    (isRootCA v && isSubCA v) = false ∧ (isRootCA v && isSubscriberCert v) = false ∧ (isSubCA v && isSubscriberCert v) = false := by
  cases v with | mk a b => cases a <;> cases b <;> decide

theorem classification_total (v : CAView) :
    (isRootCA v || isSubCA v || isSubscriberCert v) = !(v.selfSigned && !v.isCA) := by
  cases v with | mk a b => cases a <;> cases b <;> decide

/-- a change of `SelfSigned` alone never turns a CA into a subscriber or back: it moves a CA between root and
    subordinate, and a non-CA between subscriber and unclassified -/
theorem selfSigned_only_moves_within_kind (a b b' : Bool) :
    (isRootCA ⟨a, b⟩ || isSubCA ⟨a, b⟩) = (isRootCA ⟨a, b'⟩ || isSubCA ⟨a, b'⟩) := by
  cases a <;> cases b <;> cases b' <;> decide

end Zl.C04
