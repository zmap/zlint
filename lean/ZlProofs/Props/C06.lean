/-
  C06 — Severity matches the lint's name.

  The per-lint fact "set of statuses the rule body can return, over every return path"
  is regenerated from the Go source (SSA data-flow, `Generated.registrations.statuses`);
  `severity_generated` checks it against the prefix rule for every registered lint by
  kernel evaluation; `framework_adds_only` / `severity_lifted` lift it through the
  framework to every input of every run.
-/
import ZlProofs.Lemmas.Framework
import ZlProofs.Lemmas.Tables
namespace Zl.C06
open Zl Generated

/-- every registered lint name carries exactly one of the prefixes e_, w_, n_ -/
theorem prefix_exactly_one :
    registrations.all (fun r => prefixClass nameWidth r.key < 3) = true := by decide +kernel

/-- the status analysis resolved every lint (an unresolved one makes this fail, never pass) -/
theorem statuses_resolved :
    registrations.all (fun r => !r.statusUnknown && !r.statuses.isEmpty) = true := by decide +kernel

/-- **Every return path of every lint in the tree** respects the prefix rule — except exactly the
    committed known findings (`knownBad`, from /verif/known_findings.json). -/
theorem severity_generated :
    registrations.all (fun r => r.statuses.all (fun s =>
      allowedStatus (prefixClass nameWidth r.key) s || r.knownBad.contains s)) = true := by decide +kernel

/-- the excused statuses are really returned by those lints (the known-findings list holds nothing stale) -/
theorem known_findings_not_stale :
    registrations.all (fun r => r.knownBad.all (fun s => r.statuses.contains s
      && !allowedStatus (prefixClass nameWidth r.key) s)) = true := by decide +kernel

/-- The framework adds only NA, NE and fatal to what the body returns. -/
theorem framework_adds_only {Obj Cfg : Type} (k : Kind) (sc : Scope) (t : Time) (l : Lint Obj Cfg) (o : Obj) (cfg : Cfg)
    (s : Status) (d : String) (h : (execute k sc t l o cfg).1 = .result s d) :
    s = Status.na ∨ s = Status.ne ∨ s = Status.fatal ∨ ∃ d', l.body o = .res s d' := by
  rcases execute_status_from h with (h | h | h) | ⟨_, _, _, _, hb⟩
  · exact .inl h
  · exact .inr (.inl h)
  · exact .inr (.inr (.inl h))
  · exact .inr (.inr (.inr ⟨d, hb⟩))

/-- Lift: if every status the body can return (on any object) is allowed for the lint's prefix class,
    then so is every status any run reports for it, on every input and configuration. -/
theorem severity_lifted {Obj Cfg : Type} (pc : Nat) (hpc : pc < 3) (l : Lint Obj Cfg)
    (S : List Int) (hS : ∀ o s d, l.body o = .res s d → s ∈ S) (hall : S.all (allowedStatus pc) = true)
    (k : Kind) (sc : Scope) (t : Time) (o : Obj) (cfg : Cfg) (s : Status) (d : String)
    (h : (execute k sc t l o cfg).1 = .result s d) : allowedStatus pc s = true := by
  rcases execute_status_from h with hf | ⟨_, _, _, _, hb⟩
  · have : pc = 0 ∨ pc = 1 ∨ pc = 2 := by omega
    rcases this with rfl | rfl | rfl <;> rcases hf with rfl | rfl | rfl <;> decide
  · exact List.all_eq_true.mp hall s (hS o s d hb)

/-- non-vacuity: the table is non-empty and contains lints of all three prefix classes -/
example : registrations.length > 300 ∧ registrations.any (fun r => prefixClass nameWidth r.key == 0)
    ∧ registrations.any (fun r => prefixClass nameWidth r.key == 1) ∧ registrations.any (fun r => prefixClass nameWidth r.key == 2) := by
  decide +kernel

end Zl.C06
