/-
  NamesTerms — the duplicated DNS-label rules (C20) and their order independence (C17), restated about the rule terms
  the translator regenerates from the Go source on every run.

  `ZlModel/Names.lean` holds hand-written models of these bodies (tied by the `names` correspondence). Here the same
  statements are made about `Generated.bodyRules`:

    1. `label_bodies` (kernel evaluation): the RFC copies of "label too long" / "empty label", as they read in /repo now,
       *are* the one-loop terms below, and the CA/B-Forum copies *are* "judge the common name first (unless it is empty
       or an IP address), then do exactly what the RFC copy does";
    2. `anyLabel_tooLong`, `anyLabel_empty`: the element predicates of those terms are the functions of `Names.lean`
       (so the hand model and the regenerated term are the same function, for every string);
    3. `br_agrees_with_rfc`: on every certificate the two copies of a rule reach the same conclusion unless the
       common name is judged and is itself offending — in which case the BR copy reports the error (an additional
       requirement, not a contradiction) — and `rfc_error_implies_br_error`.

  The common-name test `net.ParseIP(cn) != nil` is a parameter (`Env`): the statements hold for every environment.
-/
import ZlProofs.Props.Bodies
namespace Zl.NamesTerms
open Zl Zl.LL Zl.Bodies Zl.Generated

def fDNS : Nat := fieldId "DNSNames"
def fCN : Nat := fieldId "Subject.CommonName"
def idParseIPnil : Nat := bodyExternPreds.findIdx (· == "net.ParseIP.nil")

theorem ids_present : fDNS < bodyFieldNames.length ∧ fCN < bodyFieldNames.length ∧ idParseIPnil < bodyExternPreds.length := by
  decide +kernel

def bodyOf (name : String) : Option Stmt := (ruleNamed name).map (·.body)

def tooLongP : SPred := .anyLabel (.lenCmp .gt 63)
def emptyP : SPred := .anyLabel (.eq [])

/-- `for _, dns := range c.DNSNames { if P(dns) { return Error } }; return Pass` -/
def rfcBody (p : SPred) : Stmt := .ite (.anyS fDNS p) (.ret 6) (.ret 3)

/-- `c.Subject.CommonName != "" && !util.CommonNameIsIP(c)` -/
def cnJudged : Cond := .and (.not (.strEq fCN [])) (.not (.not (.strP fCN (.ext idParseIPnil))))

/-- `if cnJudged { if P(cn) { return Error } }` followed by the RFC copy's loop -/
def brBody (p : SPred) : Stmt := .ite cnJudged (.ite (.strP fCN p) (.ret 6) (rfcBody p)) (rfcBody p)

/-- **The four bodies, as translated from the source now, are these terms.** -/
theorem label_bodies :
    bodyOf "e_rfc_dnsname_label_too_long" = some (rfcBody tooLongP)
    ∧ bodyOf "e_dnsname_label_too_long" = some (brBody tooLongP)
    ∧ bodyOf "e_rfc_dnsname_empty_label" = some (rfcBody emptyP)
    ∧ bodyOf "e_dnsname_empty_label" = some (brBody emptyP) := by decide +kernel

/-- the two copies also apply to the same certificates -/
theorem label_applies_equal :
    (ruleNamed "e_rfc_dnsname_label_too_long").map (·.applies) = (ruleNamed "e_dnsname_label_too_long").map (·.applies)
    ∧ (ruleNamed "e_rfc_dnsname_empty_label").map (·.applies) = (ruleNamed "e_dnsname_empty_label").map (·.applies)
    ∧ (ruleNamed "e_dnsname_label_too_long").isSome ∧ (ruleNamed "e_dnsname_empty_label").isSome := by decide +kernel

/-! ### the element predicates are the hand-written models -/

theorem anyLabel_tooLong (env : Env) (d : Bytes) : tooLongP.eval env d = Names.labelTooLong d :=
  congrArg (List.any _) (funext fun l => natCast_gt l.length 63)

theorem anyLabel_empty (env : Env) (d : Bytes) : emptyP.eval env d = Names.hasEmptyLabel d :=
  congrArg (List.any _) (funext fun _ => List.beq_nil_eq)

theorem any_natCast_beq (k : Nat) (l : List Nat) : l.any (fun x => (x : Int) == (k : Int)) = l.contains k := by
  rw [List.contains_eq_any_beq]
  exact congrArg (List.any l) (funext fun x => (natCast_beq x k).trans BEq.comm)

theorem anyByte_notAscii (env : Env) (s : Bytes) : (SPred.anyByte 0 .gt 127).eval env s = Names.notAscii s :=
  congrArg (List.any s) (funext fun x => natCast_gt x 127)

theorem anyByte_null (env : Env) (s : Bytes) : (SPred.anyByte 0 .eq 0).eval env s = Names.hasNull s :=
  any_natCast_beq 0 s

theorem anyByte_wildcardNotFirst (env : Env) (s : Bytes) : (SPred.anyByte 1 .eq 42).eval env s = Names.wildcardNotFirst s :=
  any_natCast_beq 42 (s.drop 1)

/-- the octet-scanning SAN rules, as translated now, are one loop with these predicates -/
theorem octet_bodies :
    bodyOf "e_ext_san_uri_not_ia5" = some (.ite (.anyS (fieldId "URIs") (.anyByte 0 .gt 127)) (.ret 6) (.ret 3))
    ∧ bodyOf "e_san_dns_name_includes_null_char" = some (rfcBody (.anyByte 0 .eq 0))
    ∧ bodyOf "e_san_wildcard_not_first" = some (rfcBody (.anyByte 1 .eq 42)) := by decide +kernel

/-! ### what the terms compute -/

theorem rfcBody_eval (env : Env) (v : View) (p : SPred) :
    evalS env v (rfcBody p) = some (if (v.list fDNS).strs.any (p.eval env) then 6 else 3) := by
  simp [rfcBody, evalS_ite_ret, evalC]

/-- the common name is judged: non-empty and not an IP literal -/
def cnIsJudged (env : Env) (v : View) : Bool := !(v.str fCN == []) && !(env.pred idParseIPnil (v.str fCN)) == false

theorem cnJudged_eval (env : Env) (v : View) : evalC env v cnJudged = some (cnIsJudged env v) := by
  simp only [cnJudged, evalC, SPred.eval, cnIsJudged, Option.map_some]
  cases h1 : (v.str fCN == []) <;> cases h2 : env.pred idParseIPnil (v.str fCN) <;> simp

theorem brBody_eval (env : Env) (v : View) (p : SPred) :
    evalS env v (brBody p) = if cnIsJudged env v && p.eval env (v.str fCN) then some 6 else evalS env v (rfcBody p) := by
  simp only [brBody, evalS, cnJudged_eval, evalC]
  cases cnIsJudged env v <;> cases p.eval env (v.str fCN) <;> simp

/-- **The two copies agree** on every certificate whose common name is not judged or is not itself offending
    (C20: same conclusion on the same content). -/
theorem br_agrees_with_rfc (env : Env) (v : View) (p : SPred) (h : (cnIsJudged env v && p.eval env (v.str fCN)) = false) :
    evalS env v (brBody p) = evalS env v (rfcBody p) := by
  rw [brBody_eval, h]
  rfl

/-- **whenever the RFC copy reports the error, so does the CA/B-Forum copy** (the BR copy is the stricter one) -/
theorem rfc_error_implies_br_error (env : Env) (v : View) (p : SPred) (h : evalS env v (rfcBody p) = some 6) :
    evalS env v (brBody p) = some 6 := by
  rw [brBody_eval]
  cases (cnIsJudged env v && p.eval env (v.str fCN)) <;> simp [h]

/-- instantiated on the regenerated table: the label-length pair -/
theorem label_too_long_pair (env : Env) (v : View) (a b : Stmt)
    (ha : bodyOf "e_rfc_dnsname_label_too_long" = some a) (hb : bodyOf "e_dnsname_label_too_long" = some b)
    (h : (cnIsJudged env v && Names.labelTooLong (v.str fCN)) = false) : evalS env v b = evalS env v a := by
  cases ha.symm.trans label_bodies.1
  cases hb.symm.trans label_bodies.2.1
  exact br_agrees_with_rfc env v tooLongP (by rw [anyLabel_tooLong]; exact h)

/-- … and the empty-label pair -/
theorem empty_label_pair (env : Env) (v : View) (a b : Stmt)
    (ha : bodyOf "e_rfc_dnsname_empty_label" = some a) (hb : bodyOf "e_dnsname_empty_label" = some b)
    (h : (cnIsJudged env v && Names.hasEmptyLabel (v.str fCN)) = false) : evalS env v b = evalS env v a := by
  cases ha.symm.trans label_bodies.2.2.1
  cases hb.symm.trans label_bodies.2.2.2
  exact br_agrees_with_rfc env v emptyP (by rw [anyLabel_empty]; exact h)

/-- what the RFC copy of the label-length rule decides, in terms of the hand-written model: an error exactly when some
    dNSName has a label longer than 63 octets — whatever the order of the names (`List.any`) -/
theorem rfc_label_too_long_exact (env : Env) (v : View) (a : Stmt) (ha : bodyOf "e_rfc_dnsname_label_too_long" = some a) :
    evalS env v a = some 6 ↔ ∃ d ∈ (v.list fDNS).strs, Names.labelTooLong d = true := by
  cases ha.symm.trans label_bodies.1
  simp [rfcBody_eval, anyLabel_tooLong]

/-- non-vacuity: a 64-octet label is offending, a 63-octet label is not -/
example : Names.labelTooLong (List.replicate 64 97 ++ [46, 99]) = true ∧ Names.labelTooLong (List.replicate 63 97 ++ [46, 99]) = false := by
  decide +kernel

end Zl.NamesTerms
