/-
  C07 — A lint's verdict does not depend on which other lints run.

  In the model a lint's `Execute` is a function of (lint, object, configuration) only; that this is
  true of the code — no lint writes the object or package-level state that another lint reads — is
  the regenerated footprint obligation of C05 (`no_object_writes`, `no_global_writes`), which this
  property rests on.
-/
import ZlProofs.Lemmas.RunAll
import ZlProofs.Props.C08
import ZlProofs.Props.C01
namespace Zl.C07
open Zl

/-- uniqueness of a result for a name in a `Good` result set -/
theorem good_unique {Obj Cfg : Type} {ex : Lint Obj Cfg → Exec} {ls : List (Lint Obj Cfg)} {rs : ResultSet}
    (hg : Good ex ls rs) (hnd : (ls.map (·.md.name)).Nodup) (l : Lint Obj Cfg) (hl : l ∈ ls) (r : Result)
    (hr : (l.md.name, r) ∈ rs.results) : ∃ s d, ex l = .result s d ∧ r.status = s ∧ r.details = d ∧ r.md = l.md := by
  obtain ⟨l', hl', s, d, he, hp⟩ := hg.only _ hr
  obtain ⟨hname, rfl⟩ := Prod.mk.inj hp
  cases eq_of_nodup_map hnd hl hl' hname
  exact ⟨s, d, he, rfl, rfl, rfl⟩

/-- **Filtered = restriction of full.** If both runs return, every result of the run over the
    sub-list `ls'` (its lints are among `ls`) is, name by name, identical — status, details and
    metadata — to the full run's result; and the filtered run has results for exactly the names of `ls'`. -/
theorem filtered_is_restriction {Obj Cfg : Type} (v : Int) (k : Kind) (sc : Scope) (t : Time)
    (ls ls' : List (Lint Obj Cfg)) (o : Obj) (cfg : Cfg)
    (hnd : (ls.map (·.md.name)).Nodup) (hnd' : (ls'.map (·.md.name)).Nodup) (hsub : ∀ l ∈ ls', l ∈ ls)
    (rs rs' : ResultSet) (h : runAll v k sc t ls o cfg = .returned rs) (h' : runAll v k sc t ls' o cfg = .returned rs') :
    rs'.results.map (·.1) = (ls'.map (·.md.name)).reverse
    ∧ ∀ n r', (n, r') ∈ rs'.results → ∃ r, (n, r) ∈ rs.results ∧ r.status = r'.status ∧ r.details = r'.details ∧ r.md = r'.md := by
  obtain ⟨hg, _⟩ := runAll_good hnd h
  obtain ⟨hg', _⟩ := runAll_good hnd' h'
  refine ⟨hg'.keys, fun n r' hr' => ?_⟩
  obtain ⟨l, hl, s, d, he, hp⟩ := hg'.only _ hr'
  cases hp
  obtain ⟨s2, d2, he2, hmem⟩ := hg.entries l (hsub l hl)
  cases he.symm.trans he2
  exact ⟨_, hmem, rfl, rfl, rfl⟩

/-- **Flags are monotone**: every presence flag raised by the filtered run is raised by the full run. -/
theorem flags_monotone {Obj Cfg : Type} (v : Int) (k : Kind) (sc : Scope) (t : Time)
    (ls ls' : List (Lint Obj Cfg)) (o : Obj) (cfg : Cfg)
    (hnd : (ls.map (·.md.name)).Nodup) (hnd' : (ls'.map (·.md.name)).Nodup) (hsub : ∀ l ∈ ls', l ∈ ls)
    (rs rs' : ResultSet) (h : runAll v k sc t ls o cfg = .returned rs) (h' : runAll v k sc t ls' o cfg = .returned rs') :
    (rs'.notices = true → rs.notices = true) ∧ (rs'.warnings = true → rs.warnings = true)
    ∧ (rs'.errors = true → rs.errors = true) ∧ (rs'.fatals = true → rs.fatals = true) := by
  obtain ⟨_, hres⟩ := filtered_is_restriction v k sc t ls ls' o cfg hnd hnd' hsub rs rs' h h'
  obtain ⟨f, _⟩ := C01.flags_iff v k sc t ls o cfg hnd rs h
  obtain ⟨f', _⟩ := C01.flags_iff v k sc t ls' o cfg hnd' rs' h'
  have lift : ∀ c : Status, (∃ p ∈ rs'.results, p.2.status = c) → ∃ p ∈ rs.results, p.2.status = c := by
    rintro c ⟨p, hp, hc⟩
    obtain ⟨r, hr, hs, _, _⟩ := hres p.1 p.2 hp
    exact ⟨(p.1, r), hr, by rw [← hc]; exact hs⟩
  exact ⟨fun x => f.notices.mpr (lift _ (f'.notices.mp x)), fun x => f.warnings.mpr (lift _ (f'.warnings.mp x)),
         fun x => f.errors.mpr (lift _ (f'.errors.mp x)), fun x => f.fatals.mpr (lift _ (f'.fatals.mp x))⟩

/-- `Filter` hands the run the very same lint values and the same configuration: the lints of the
    filtered registry are among those of the source registry, kind by kind (from C08's `filter_spec`). -/
theorem filter_shares_lints {α Cfg : Type} (r r' : Registry α Cfg) (hr : RInv r) (o : FilterOptions)
    (h : filter r o = .ok r') : r'.cfg = r.cfg ∧ ∀ k e, e ∈ (r'.lookupOf k).lints → e ∈ (r.lookupOf k).lints := by
  cases he : o.empty with
  | true =>
    rw [C08.filter_empty_id r o he] at h
    cases h
    exact ⟨rfl, fun _ _ h => h⟩
  | false =>
    obtain ⟨_, hc, hs⟩ := C08.filter_spec r r' hr o he h
    exact ⟨hc, fun k e hm => ((hs k e).mp hm).1⟩

end Zl.C07
