/-
  C01 — Every lint run returns a complete, well-formed result set.
-/
import ZlProofs.Lemmas.RunAll
namespace Zl.C01
open Zl

/-- `l` is well-behaved on `(o, cfg)` for a run of kind `k`: its body never returns nil and only
    returns defined statuses; for CRL/OCSP lints (no recovery net) additionally no stage panics. -/
structure WB {Obj Cfg : Type} (k : Kind) (l : Lint Obj Cfg) (o : Obj) (cfg : Cfg) : Prop where
  notNil : l.body o ≠ .nil
  status : ∀ s d, l.body o = .res s d → Status.valid7 s = true
  noPanic : k ≠ .cert → (∀ m, l.configure cfg ≠ .panic m) ∧ (∀ m, l.applies o ≠ .panic m) ∧ (∀ m, l.body o ≠ .panic m)

/-- a well-behaved lint's `Execute` neither panics nor returns nil, and its status is a defined one -/
theorem execute_of_WB {Obj Cfg : Type} {k : Kind} {l : Lint Obj Cfg} {o : Obj} {cfg : Cfg} (h : WB k l o cfg)
    (sc : Scope) (t : Time) :
    (∀ m, (execute k sc t l o cfg).1 ≠ .panic m) ∧ (execute k sc t l o cfg).1 ≠ .nilResult
    ∧ ∀ s d, (execute k sc t l o cfg).1 = .result s d → Status.valid7 s = true := by
  refine ⟨fun m he => ?_, fun he => ?_, fun s d he => ?_⟩
  · rw [execute_eq, recoverOf_eq_panic] at he
    obtain ⟨h1, h2, h3⟩ := h.noPanic he.1
    rcases (executeRaw_panic_iff.mp he.2).2 with hp | ⟨_, hp | ⟨_, _, hp⟩⟩
    · exact h1 m hp
    · exact h2 m hp
    · exact h3 m hp
  · rw [execute_eq, recoverOf_eq_nil, executeRaw_nil_iff] at he
    exact h.notNil he.2.2.2.2
  · rcases execute_status_from he with hf | ⟨_, _, _, _, hb⟩
    · exact frameworkStatus_valid7 hf
    · exact h.status s d hb

/-- **When does a panic reach the caller?** Exactly when some lint's `Execute` panics or hands
    back nil (the unrecovered `res.LintMetadata = …`). -/
theorem runAll_panics_iff {Obj Cfg : Type} (version : Int) (k : Kind) (sc : Scope) (t : Time)
    (ls : List (Lint Obj Cfg)) (o : Obj) (cfg : Cfg) :
    (∃ m, runAll version k sc t ls o cfg = .panicked m) ↔
      ∃ l ∈ ls, (∃ m, (execute k sc t l o cfg).1 = .panic m) ∨ (execute k sc t l o cfg).1 = .nilResult := by
  rw [← fold_panics_iff (fun l : Lint Obj Cfg => (execute k sc t l o cfg).1) ls {}]
  simp only [runAll, stepRun_eq_stepWith]
  cases ls.foldl (stepWith fun l : Lint Obj Cfg => (execute k sc t l o cfg).1) (.returned {}) <;> simp

/-- **Completeness and well-formedness.** For every list of lints with pairwise distinct names
    (what a registry's per-kind lookup holds — C12), all well-behaved on this input, the run
    returns; the result keys are exactly the lint names (one each, no others); every result
    carries its lint's metadata and a defined status; flags match contents; version is set. -/
theorem runAll_exact {Obj Cfg : Type} (version : Int) (k : Kind) (sc : Scope) (t : Time)
    (ls : List (Lint Obj Cfg)) (o : Obj) (cfg : Cfg)
    (hnd : (ls.map (·.md.name)).Nodup) (hwb : ∀ l ∈ ls, WB k l o cfg) :
    ∃ rs, runAll version k sc t ls o cfg = .returned rs
      ∧ rs.version = version
      ∧ rs.results.map (·.1) = (ls.map (·.md.name)).reverse
      ∧ (∀ l ∈ ls, ∃ r, (l.md.name, r) ∈ rs.results ∧ r.md = l.md ∧ Status.valid7 r.status = true)
      ∧ (∀ p ∈ rs.results, ∃ l ∈ ls, p.1 = l.md.name ∧ p.2.md = l.md ∧ Status.valid7 p.2.status = true)
      ∧ FlagsOK rs := by
  cases h : runAll version k sc t ls o cfg with
  | panicked m =>
    obtain ⟨l, hl, hbad⟩ := (runAll_panics_iff version k sc t ls o cfg).mp ⟨m, h⟩
    obtain ⟨hp, hn, _⟩ := execute_of_WB (hwb l hl) sc t
    rcases hbad with ⟨m, hm⟩ | hm
    · exact absurd hm (hp m)
    · exact absurd hm hn
  | returned rs =>
    obtain ⟨hg, hv⟩ := runAll_good hnd h
    refine ⟨rs, rfl, hv, hg.keys, ?_, ?_, hg.flags⟩
    · intro l hl
      obtain ⟨s, d, he, hmem⟩ := hg.entries l hl
      exact ⟨_, hmem, rfl, (execute_of_WB (hwb l hl) sc t).2.2 s d he⟩
    · intro p hp
      obtain ⟨l, hl, s, d, he, rfl⟩ := hg.only p hp
      exact ⟨l, hl, rfl, rfl, (execute_of_WB (hwb l hl) sc t).2.2 s d he⟩

/-- **Flags.** Whenever a run returns (any mix of statuses, well-behaved or not), each presence
    flag is true exactly when some contained result has that status. Needs only distinct names. -/
theorem flags_iff {Obj Cfg : Type} (version : Int) (k : Kind) (sc : Scope) (t : Time)
    (ls : List (Lint Obj Cfg)) (o : Obj) (cfg : Cfg) (hnd : (ls.map (·.md.name)).Nodup)
    (rs : ResultSet) (h : runAll version k sc t ls o cfg = .returned rs) : FlagsOK rs ∧ rs.version = version := by
  obtain ⟨hg, hv⟩ := runAll_good hnd h
  exact ⟨hg.flags, hv⟩

/-- for certificate lints only a nil result can do it: panics are recovered -/
theorem cert_run_panics_iff {Obj Cfg : Type} (version : Int) (sc : Scope) (t : Time)
    (ls : List (Lint Obj Cfg)) (o : Obj) (cfg : Cfg) :
    (∃ m, runAll version .cert sc t ls o cfg = .panicked m) ↔
      ∃ l ∈ ls, inScope l.md.source sc = true ∧ l.configure cfg = .ok none ∧ l.applies o = .ok true ∧
        checkEffective l.md.eff l.md.ineff t = true ∧ l.body o = .nil := by
  simp [runAll_panics_iff, execute_eq, recoverOf_eq_panic, recoverOf_eq_nil, executeRaw_nil_iff, gateOf]

/-- non-vacuity: two concrete lints, one warning; the run returns both with the warn flag only -/
def exA : Lint Unit Unit := { md := { name := "w_a" }, configure := fun _ => .ok none, applies := fun _ => .ok true, body := fun _ => .res Status.warn "x" }
def exB : Lint Unit Unit := { md := { name := "e_b" }, configure := fun _ => .ok none, applies := fun _ => .ok false, body := fun _ => .panic "never" }
example : WB .cert exA () () ∧ WB .cert exB () () ∧ ([exA, exB].map (·.md.name)).Nodup := by
  refine ⟨⟨by decide, fun s d h => by cases h; decide, by simp⟩,
          ⟨by decide, fun s d h => (by cases h), by simp⟩, by decide⟩
example : ∃ rs, runAll 3 .cert default default [exA, exB] () () = .returned rs ∧ rs.warnings = true ∧ rs.errors = false
    ∧ rs.results.map (·.1) = ["e_b", "w_a"] := ⟨_, rfl, by decide, by decide, by decide⟩

end Zl.C01
