/-
  C16Terms — the arithmetic theorems of C16, restated about the rule terms that the translator regenerates
  from the Go source of the RSA lints on every run (`Generated.bodyRules`), not about a hand-written copy.

  For each RSA key-quality lint inside the lint-logic fragment (eleven of the fourteen; the exponent-range lint
  and the Fermat lint use their receiver and stay with `Props/C16.lean` + the `rsa` correspondence):

    1. `…_body` (kernel evaluation over the regenerated table): the lint's `Execute`, as translated from the
       source that is in /repo now, *is* the expected term (threshold, comparison, statuses);
    2. `…_exact`: on every view whose parsed key is an RSA key `(n, e)`, that term answers `error` / `warn`
       exactly when the arithmetic condition of the property holds — through the unbounded theorems of
       `Props/C16.lean` (`bitLen_lt_iff`, `modSmallFactor_iff` over the regenerated prime table, …).

  A change of a threshold, of a comparison operator, of a returned status or of the guard in one of these
  bodies changes the regenerated term and (1) stops checking.
-/
import ZlProofs.Props.Bodies
import ZlProofs.Props.C16
namespace Zl.C16Terms
open Zl Zl.LL Zl.Bodies Zl.Generated

def kt : Nat := fieldId "PublicKey#type"
def fN : Nat := fieldId "PublicKey#rsa.N"
def fE : Nat := fieldId "PublicKey#rsa.E"

/-- the three pseudo fields exist in the regenerated field table and are distinct -/
theorem key_fields_present : kt < bodyFieldNames.length ∧ fN < bodyFieldNames.length ∧ fE < bodyFieldNames.length
    ∧ kt ≠ fN ∧ kt ≠ fE ∧ fN ≠ fE := by decide +kernel

/-- a view of a certificate whose parsed public key is `&rsa.PublicKey{N: n, E: e}` -/
structure RsaView (v : View) (n : Nat) (e : Int) : Prop where
  tag : v.int kt = 1
  modulus : v.int fN = (n : Int)
  exponent : v.int fE = e

def bodyOf (name : String) : Option Stmt := (ruleNamed name).map (·.body)

/-! ### expected terms -/

/-- `key := c.PublicKey.(*rsa.PublicKey); if key.N.BitLen() < k { Error } else { Pass }` -/
def sizeBody (k : Int) : Stmt :=
  .assertInt kt 1 (.ite (.icmp (.bitLen (.kfld fN kt 1)) .lt (.lit k)) (.ret 6) (.ret 3))

/-- `key, ok := …; if !ok { return other }; if key.N.BitLen() < k { Error }; Pass` -/
def sizeBodyOk (other : Status) (k : Int) : Stmt :=
  .ite (.not (.int kt .eq 1)) (.ret other) (.ite (.icmp (.bitLen (.kfld fN kt 1)) .lt (.lit k)) (.ret 6) (.ret 3))

theorem size_bodies :
    bodyOf "e_rsa_mod_less_than_2048_bits" = some (sizeBody 2048)
    ∧ bodyOf "e_old_root_ca_rsa_mod_less_than_2048_bits" = some (sizeBody 2048)
    ∧ bodyOf "e_old_sub_ca_rsa_mod_less_than_1024_bits" = some (sizeBody 1024)
    ∧ bodyOf "e_old_sub_cert_rsa_mod_less_than_1024_bits" = some (sizeBody 1024)
    ∧ bodyOf "e_mp_modulus_must_be_2048_bits_or_more" = some (sizeBodyOk 7 2048)
    ∧ bodyOf "e_cs_rsa_key_size" = some (sizeBodyOk 1 3072) := by decide +kernel

/-! ### on a view with an RSA key -/

attribute [local simp] evalS_ite_ret evalC IExp.eval Cmp.eval Status.error Status.warn Status.pass

/-- both ways of guarding the key access let an RSA key through: the type assertion, and the `ok` test -/
theorem RsaView.guard {env : Env} {v : View} {n : Nat} {e : Int} (h : RsaView v n e) (s : Stmt) :
    evalS env v (.assertInt kt 1 s) = evalS env v s
    ∧ ∀ other, evalS env v (.ite (.not (.int kt .eq 1)) (.ret other) s) = evalS env v s := by
  simp [evalS, h.tag]

/-- the threshold `k` is an integer of the source; a bit length is below it exactly when it is below `k.toNat` -/
theorem sizeBody_eval {env : Env} {v : View} {n : Nat} {e : Int} (h : RsaView v n e) (k : Int) :
    evalS env v (sizeBody k) = some (modLessThan k.toNat n) := by
  simp [sizeBody, h.guard, h.tag, h.modulus, modLessThan, Int.lt_toNat]

theorem sizeBodyOk_eval {env : Env} {v : View} {n : Nat} {e : Int} (h : RsaView v n e) (other : Status) (k : Int) :
    evalS env v (sizeBodyOk other k) = some (modLessThan k.toNat n) := by
  simp [sizeBodyOk, h.guard, h.tag, h.modulus, modLessThan, Int.lt_toNat]

/-- **`e_rsa_mod_less_than_2048_bits`, as it reads in the source now, reports an error exactly when N < 2^2047** -/
theorem rsa_mod_2048_exact (env : Env) (v : View) (n : Nat) (e : Int) (h : RsaView v n e) (b : Stmt)
    (hb : bodyOf "e_rsa_mod_less_than_2048_bits" = some b) : evalS env v b = some Status.error ↔ n < 2 ^ 2047 := by
  cases hb.symm.trans size_bodies.1
  rw [sizeBody_eval h, Option.some.injEq]
  exact C16.mod_lt_2048 n

theorem old_root_2048_exact (env : Env) (v : View) (n : Nat) (e : Int) (h : RsaView v n e) (b : Stmt)
    (hb : bodyOf "e_old_root_ca_rsa_mod_less_than_2048_bits" = some b) : evalS env v b = some Status.error ↔ n < 2 ^ 2047 := by
  cases hb.symm.trans size_bodies.2.1
  rw [sizeBody_eval h, Option.some.injEq]
  exact C16.mod_lt_2048 n

theorem old_sub_ca_1024_exact (env : Env) (v : View) (n : Nat) (e : Int) (h : RsaView v n e) (b : Stmt)
    (hb : bodyOf "e_old_sub_ca_rsa_mod_less_than_1024_bits" = some b) : evalS env v b = some Status.error ↔ n < 2 ^ 1023 := by
  cases hb.symm.trans size_bodies.2.2.1
  rw [sizeBody_eval h, Option.some.injEq]
  exact C16.mod_lt_1024 n

theorem old_sub_cert_1024_exact (env : Env) (v : View) (n : Nat) (e : Int) (h : RsaView v n e) (b : Stmt)
    (hb : bodyOf "e_old_sub_cert_rsa_mod_less_than_1024_bits" = some b) : evalS env v b = some Status.error ↔ n < 2 ^ 1023 := by
  cases hb.symm.trans size_bodies.2.2.2.1
  rw [sizeBody_eval h, Option.some.injEq]
  exact C16.mod_lt_1024 n

theorem mp_2048_exact (env : Env) (v : View) (n : Nat) (e : Int) (h : RsaView v n e) (b : Stmt)
    (hb : bodyOf "e_mp_modulus_must_be_2048_bits_or_more" = some b) : evalS env v b = some Status.error ↔ n < 2 ^ 2047 := by
  cases hb.symm.trans size_bodies.2.2.2.2.1
  rw [sizeBodyOk_eval h, Option.some.injEq]
  exact C16.mod_lt_2048 n

theorem cs_3072_exact (env : Env) (v : View) (n : Nat) (e : Int) (h : RsaView v n e) (b : Stmt)
    (hb : bodyOf "e_cs_rsa_key_size" = some b) : evalS env v b = some Status.error ↔ n < 2 ^ 3071 := by
  cases hb.symm.trans size_bodies.2.2.2.2.2
  rw [sizeBodyOk_eval h, Option.some.injEq]
  exact C16.mod_lt_3072 n

/-! ### length divisible by 8, parity, small factors -/

def div8Body : Stmt :=
  .ite (.not (.int kt .eq 1)) (.ret 7) (.ite (.icmp (.tmod (.bitLen (.kfld fN kt 1)) 8) .ne (.lit 0)) (.ret 6) (.ret 3))
def notOddBody : Stmt :=
  .assertInt kt 1 (.ite (.icmp (.emod (.kfld fN kt 1) 2) .eq (.lit 1)) (.ret 3) (.ret 5))
def smallFactorBody : Stmt :=
  .assertInt kt 1 (.ite (.primes752 (.kfld fN kt 1)) (.ret 3) (.ret 5))

theorem modulus_bodies :
    bodyOf "e_mp_modulus_must_be_divisible_by_8" = some div8Body
    ∧ bodyOf "w_rsa_mod_not_odd" = some notOddBody
    ∧ bodyOf "w_rsa_mod_factors_smaller_than_752" = some smallFactorBody := by decide +kernel

theorem div8_exact (env : Env) (v : View) (n : Nat) (e : Int) (h : RsaView v n e) (b : Stmt)
    (hb : bodyOf "e_mp_modulus_must_be_divisible_by_8" = some b) : evalS env v b = some Status.error ↔ bitLen n % 8 ≠ 0 := by
  cases hb.symm.trans modulus_bodies.1
  simp [div8Body, h.guard, h.tag, h.modulus, Int.tmod_eq_emod_of_nonneg (Int.natCast_nonneg (bitLen n))]
  omega

theorem notOdd_exact (env : Env) (v : View) (n : Nat) (e : Int) (h : RsaView v n e) (b : Stmt)
    (hb : bodyOf "w_rsa_mod_not_odd" = some b) : evalS env v b = some Status.warn ↔ 2 ∣ n := by
  cases hb.symm.trans modulus_bodies.2.1
  simp [notOddBody, h.guard, h.tag, h.modulus]
  omega

/-- **`w_rsa_mod_factors_smaller_than_752`, as translated from the source and evaluated over the regenerated prime
    table, warns exactly when the modulus has a divisor d with 2 ≤ d < 752** -/
theorem smallFactor_exact (env : Env) (v : View) (n : Nat) (e : Int) (h : RsaView v n e) (b : Stmt)
    (hb : bodyOf "w_rsa_mod_factors_smaller_than_752" = some b) :
    evalS env v b = some Status.warn ↔ ∃ d, 2 ≤ d ∧ d < 752 ∧ d ∣ n := by
  cases hb.symm.trans modulus_bodies.2.2
  simp [smallFactorBody, h.guard, h.tag, h.modulus, ← C16.modSmallFactor_iff, modSmallFactor]

/-! ### exponents -/

def expOddBody : Stmt :=
  .assertInt kt 1 (.ite (.icmp (.tmod (.kfld fE kt 1) 2) .eq (.lit 1)) (.ret 3) (.ret 6))
def expSmallBody : Stmt :=
  .assertInt kt 1 (.ite (.icmp (.kfld fE kt 1) .ge (.lit 3)) (.ret 3) (.ret 6))
def expOneBody : Stmt :=
  .ite (.not (.int kt .eq 1)) (.ret 7) (.ite (.icmp (.kfld fE kt 1) .eq (.lit 1)) (.ret 6) (.ret 3))
def expNegBody : Stmt :=
  .assertInt kt 1 (.ite (.icmp (.kfld fE kt 1) .lt (.lit 0)) (.ret 6) (.ret 3))

theorem exponent_bodies :
    bodyOf "e_rsa_public_exponent_not_odd" = some expOddBody
    ∧ bodyOf "e_rsa_public_exponent_too_small" = some expSmallBody
    ∧ bodyOf "e_mp_exponent_cannot_be_one" = some expOneBody
    ∧ bodyOf "e_rsa_exp_negative" = some expNegBody := by decide +kernel

/-- for every exponent the parser delivers (`E ≥ 0`): error exactly when E is even. (Go's `%` truncates: a negative
    odd E would also be reported, `-1 ≠ 1` — `expOdd_negative`.) -/
theorem expOdd_exact (env : Env) (v : View) (n : Nat) (e : Nat) (h : RsaView v n e) (b : Stmt)
    (hb : bodyOf "e_rsa_public_exponent_not_odd" = some b) : evalS env v b = some Status.error ↔ 2 ∣ e := by
  cases hb.symm.trans exponent_bodies.1
  simp [expOddBody, h.guard, h.tag, h.exponent, Int.tmod_eq_emod_of_nonneg (Int.natCast_nonneg e)]
  omega

theorem expOdd_negative (env : Env) (v : View) (n : Nat) (e : Int) (h : RsaView v n e) (he : e < 0) :
    evalS env v expOddBody = some Status.error := by
  have : Int.tmod e 2 ≠ 1 := by
    have := Int.tmod_nonneg (a := -e) 2 (by omega)
    rw [Int.neg_tmod] at this
    omega
  simp [expOddBody, h.guard, h.tag, h.exponent, this]

theorem expSmall_exact (env : Env) (v : View) (n : Nat) (e : Int) (h : RsaView v n e) (b : Stmt)
    (hb : bodyOf "e_rsa_public_exponent_too_small" = some b) : evalS env v b = some Status.error ↔ e < 3 := by
  cases hb.symm.trans exponent_bodies.2.1
  simp [expSmallBody, h.guard, h.tag, h.exponent]

theorem expOne_exact (env : Env) (v : View) (n : Nat) (e : Int) (h : RsaView v n e) (b : Stmt)
    (hb : bodyOf "e_mp_exponent_cannot_be_one" = some b) : evalS env v b = some Status.error ↔ e = 1 := by
  cases hb.symm.trans exponent_bodies.2.2.1
  simp [expOneBody, h.guard, h.tag, h.exponent]

theorem expNeg_exact (env : Env) (v : View) (n : Nat) (e : Int) (h : RsaView v n e) (b : Stmt)
    (hb : bodyOf "e_rsa_exp_negative" = some b) : evalS env v b = some Status.error ↔ e < 0 := by
  cases hb.symm.trans exponent_bodies.2.2.2
  simp [expNegBody, h.guard, h.tag, h.exponent]

/-! On other keys: each of these lints applies only to certificates whose key is an RSA key, or answers without
    touching the key; either way no panic, by `translated_rules_never_panic`. -/

/-- non-vacuity: a view with an RSA key exists, and on it the 2048-bit rule separates 2^2047 - 1 from 2^2047 -/
example : RsaView { ints := [(kt, 1), (fN, ((2 ^ 2047 : Nat) : Int)), (fE, 65537)] } (2 ^ 2047) 65537 := by
  obtain ⟨-, -, -, h1, h2, h3⟩ := key_fields_present
  constructor <;> simp [View.int, lookup, h1, h2, h3]

end Zl.C16Terms
