/-
  Bodies — theorems about the rule bodies themselves, for the certificate lints whose `CheckApplies` and
  `Execute` are translated from the Go source into the lint-logic language (`Generated.bodyRules`,
  regenerated on every run by /verif/extract/bodies.go).

  General part (every term, every view):  a body returns only statuses that occur in it; the guard
  analysis is sound (a rule that passes `Rule.safe` never panics); evaluation only depends on the fields a
  term mentions, is blind to the order of list elements and of the extension map's entries, and never sees
  the signature (a view has no such field).

  Table part (kernel evaluation over the regenerated terms): every translated rule is safe, respects the
  severity prefix, and reads no field outside the allowed set.

  These theorems serve C02 (no internal failure), C05 (function of the object), C06 (severity),
  C09 (signature independence) and C17 (order independence) for the translated lints; the `bodies`
  correspondence ties the translation to the real methods.
-/
import ZlModel.Generated.Bodies
import ZlProofs.Lemmas.Tables
namespace Zl.Bodies
open Zl Zl.LL

/-! ### evaluation: connectives whose operands do not panic are the Boolean operations; a two-way test -/

section
variable {env : Env} {v : View} {a b : Cond} {x y : Bool}

theorem evalC_not_some (ha : evalC env v a = some x) : evalC env v (.not a) = some (!x) := by
  simp [evalC, ha]

theorem evalC_and_some (ha : evalC env v a = some x) (hb : evalC env v b = some y) :
    evalC env v (.and a b) = some (x && y) := by
  cases x <;> simp [evalC, ha, hb]

theorem evalC_or_some (ha : evalC env v a = some x) (hb : evalC env v b = some y) :
    evalC env v (.or a b) = some (x || y) := by
  cases x <;> simp [evalC, ha, hb]

end

/-- `if c { return s }; return t` -/
theorem evalS_ite_ret (env : Env) (v : View) (c : Cond) (s t : Status) :
    evalS env v (.ite c (.ret s) (.ret t)) = (evalC env v c).map (fun b => if b then s else t) := by
  simp only [evalS]
  rcases evalC env v c with _ | _ | _ <;> rfl

/-- lengths and octets are compared as integers in the language, as natural numbers in the hand-written models -/
theorem natCast_beq (a k : Nat) : ((a : Int) == (k : Int)) = (a == k) :=
  decide_eq_decide.mpr Int.natCast_inj

theorem natCast_gt (a k : Nat) : Cmp.eval .gt (a : Int) (k : Int) = decide (k < a) :=
  decide_eq_decide.mpr Int.ofNat_lt

/-! ### statuses -/

/-- a body returns only a status that is written in it -/
theorem evalS_mem_statuses (env : Env) (v : View) : ∀ (s : Stmt) (st : Status), evalS env v s = some st → st ∈ s.statuses := by
  intro s st h
  induction s with
  | ret s0 => simpa [evalS, Stmt.statuses, eq_comm] using h
  | ite c t e iht ihe =>
    rw [Stmt.statuses, List.mem_append]
    simp only [evalS] at h
    split at h
    · cases h
    · exact .inl (iht h)
    · exact .inr (ihe h)
  | assertInt f k s0 ih =>
    simp only [evalS] at h
    split at h
    · exact ih h
    · cases h

/-- what a rule can answer: a panic, "not applicable", or one of the statuses written in its body -/
theorem run_cases (env : Env) (r : Rule) (v : View) :
    r.run env v = .panic ∨ r.run env v = .notApplicable ∨ ∃ s ∈ r.body.statuses, r.run env v = .result s := by
  unfold Rule.run
  split
  · simp
  · simp
  · split
    · simp
    · next s hs => exact .inr (.inr ⟨s, evalS_mem_statuses env v _ s hs, rfl⟩)

/-! ### the guard analysis is sound -/

/-- what a fact says about a view -/
def _root_.Zl.LL.Fact.holds (v : View) : Fact → Prop
  | .ext o => (v.ext? o).isSome = true
  | .intEq f k => v.int f = k

def Present (v : View) (g : List Fact) : Prop := ∀ o ∈ g, o.holds v

theorem present_nil (v : View) : Present v [] := fun _ ho => absurd ho List.not_mem_nil

theorem present_one {v : View} {x : Fact} (h : x.holds v) : Present v [x] :=
  fun _ ho => List.mem_singleton.mp ho ▸ h

theorem present_append {v : View} {a b : List Fact} (ha : Present v a) (hb : Present v b) : Present v (a ++ b) :=
  List.forall_mem_append.mpr ⟨ha, hb⟩

/-- the facts that two lists share hold as soon as those of one list do -/
theorem present_inter {v : View} {a b : List Fact} (h : Present v a ∨ Present v b) :
    Present v (a.filter (fun o => b.contains o)) := by
  intro o ho
  rw [List.mem_filter, List.contains_iff_mem] at ho
  exact h.elim (· o ho.1) (· o ho.2)

theorem facts_sound (env : Env) (v : View) : ∀ c : Cond,
    (evalC env v c = some true → Present v c.posFacts) ∧ (evalC env v c = some false → Present v c.negFacts) := by
  intro c
  induction c with
  | ext o => exact ⟨fun h => present_one (Option.some.inj h), fun _ => present_nil v⟩
  | crit o => exact ⟨fun h => present_one (Option.isSome_of_eq_some h), fun h => present_one (Option.isSome_of_eq_some h)⟩
  | int f c k =>
    cases c
    case eq => exact ⟨fun h => present_one (eq_of_beq (Option.some.inj h)), fun _ => present_nil v⟩
    case ne => exact ⟨fun _ => present_nil v, fun h => present_one (bne_eq_false_iff_eq.mp (Option.some.inj h))⟩
    all_goals exact ⟨fun _ => present_nil v, fun _ => present_nil v⟩
  | not c ih =>
    simp only [evalC]
    rcases hc : evalC env v c with _ | _ | _
    · exact ⟨nofun, nofun⟩
    · exact ⟨fun _ => ih.2 hc, nofun⟩
    · exact ⟨nofun, fun _ => ih.1 hc⟩
  | and a b iha ihb =>
    simp only [evalC]
    rcases ha : evalC env v a with _ | _ | _
    · exact ⟨nofun, nofun⟩
    · exact ⟨nofun, fun _ => present_inter (.inl (iha.2 ha))⟩
    · exact ⟨fun hb => present_append (iha.1 ha) (ihb.1 hb), fun hb => present_inter (.inr (ihb.2 hb))⟩
  | or a b iha ihb =>
    simp only [evalC]
    rcases ha : evalC env v a with _ | _ | _
    · exact ⟨nofun, nofun⟩
    · exact ⟨fun hb => present_inter (.inr (ihb.1 hb)), fun hb => present_append (iha.2 ha) (ihb.2 hb)⟩
    · exact ⟨fun _ => present_inter (.inl (iha.1 ha)), nofun⟩
  | _ => exact ⟨fun _ => present_nil v, fun _ => present_nil v⟩

theorem safeI_sound (v : View) : ∀ (e : IExp) (g : List Fact), Present v g → e.safe g = true → (e.eval v).isSome = true := by
  intro e g hg
  induction e with
  | kfld f tf k =>
    intro hs
    have : v.int tf = k := hg (.intEq tf k) (by simpa [IExp.safe] using hs)
    simp [IExp.eval, this]
  | bitLen e ih => rw [IExp.eval, Option.isSome_map]; exact ih
  | tmod e k ih | emod e k ih =>
    rw [IExp.safe, Bool.and_eq_true, bne_iff_ne]
    rintro ⟨hk, hs⟩
    rw [IExp.eval, if_neg (by simpa using hk), Option.isSome_map]
    exact ih hs
  | _ => intro; rfl

/-- a condition that passes the guard analysis does not panic when the extensions it relies on are present -/
theorem safeC_sound (env : Env) (v : View) : ∀ (c : Cond) (g : List Fact), Present v g → c.safe g = true → (evalC env v c).isSome = true := by
  intro c g hg hs
  induction c generalizing g with
  | crit o => exact hg (.ext o) (by simpa [Cond.safe] using hs)
  | icmp a c b =>
    simp only [Cond.safe, Bool.and_eq_true] at hs
    obtain ⟨x, hx⟩ := Option.isSome_iff_exists.mp (safeI_sound v a g hg hs.1)
    obtain ⟨y, hy⟩ := Option.isSome_iff_exists.mp (safeI_sound v b g hg hs.2)
    simp [evalC, hx, hy]
  | primes752 e => simpa [evalC] using safeI_sound v e g hg hs
  | not c ih => simpa [evalC] using ih g hg hs
  | and a b iha ihb =>
    simp only [Cond.safe, Bool.and_eq_true] at hs
    have h1 := iha g hg hs.1
    simp only [evalC]
    rcases ha : evalC env v a with _ | _ | _
    · simp [ha] at h1
    · rfl
    · exact ihb _ (present_append ((facts_sound env v a).1 ha) hg) hs.2
  | or a b iha ihb =>
    simp only [Cond.safe, Bool.and_eq_true] at hs
    have h1 := iha g hg hs.1
    simp only [evalC]
    rcases ha : evalC env v a with _ | _ | _
    · simp [ha] at h1
    · exact ihb _ (present_append ((facts_sound env v a).2 ha) hg) hs.2
    · rfl
  | _ => rfl

theorem safeS_sound (env : Env) (v : View) : ∀ (s : Stmt) (g : List Fact), Present v g → s.safe g = true → (evalS env v s).isSome = true := by
  intro s g hg hs
  induction s generalizing g with
  | ret s0 => rfl
  | ite c t e iht ihe =>
    simp only [Stmt.safe, Bool.and_eq_true] at hs
    have h1 := safeC_sound env v c g hg hs.1.1
    simp only [evalS]
    rcases hc : evalC env v c with _ | _ | _
    · simp [hc] at h1
    · exact ihe _ (present_append ((facts_sound env v c).2 hc) hg) hs.2
    · exact iht _ (present_append ((facts_sound env v c).1 hc) hg) hs.1.2
  | assertInt f k s0 ih =>
    simp only [Stmt.safe, Bool.and_eq_true, List.contains_eq_mem, decide_eq_true_eq] at hs
    have : v.int f = k := hg _ hs.1
    simpa [evalS, this] using ih g hg hs.2

/-- **A rule that passes the guard analysis never panics, on any view**: `CheckApplies` returns, and
    `Execute` returns whenever `CheckApplies` answered true. -/
theorem safe_never_panics (env : Env) (r : Rule) (h : r.safe = true) (v : View) : r.run env v ≠ .panic := by
  simp only [Rule.safe, Bool.and_eq_true] at h
  have ha := safeC_sound env v r.applies [] (present_nil v) h.1
  unfold Rule.run
  rcases hap : evalC env v r.applies with _ | _ | _
  · simp [hap] at ha
  · simp
  · obtain ⟨s, hs⟩ := Option.isSome_iff_exists.mp (safeS_sound env v r.body _ ((facts_sound env v r.applies).1 hap) h.2)
    simp [hs]

/-- the guard is needed: the unguarded dereference panics on a view without the extension -/
example : ({ name := "x", nameB := [], applies := .const true, body := .ite (.crit [2, 5, 29, 15]) (.ret 3) (.ret 6) } : Rule).run ⟨fun _ _ => none, fun _ _ => false⟩ {} = .panic := by
  decide

/-! ### evaluation depends on the view only through what a term mentions, as sets -/

/-- two views a term cannot tell apart: same scalar fields, list fields with the same nil-ness, length and
    the same *set* of elements, the same extension lookups -/
structure Similar (v w : View) : Prop where
  bools : ∀ f, v.bool f = w.bool f
  ints : ∀ f, v.int f = w.int f
  strs : ∀ f, v.str f = w.str f
  nils : ∀ f, (v.list f).isNil = (w.list f).isNil
  lens : ∀ f, (v.list f).len = (w.list f).len
  lstrs : ∀ f x, x ∈ (v.list f).strs ↔ x ∈ (w.list f).strs
  loids : ∀ f x, x ∈ (v.list f).oids ↔ x ∈ (w.list f).oids
  lints : ∀ f x, x ∈ (v.list f).ints ↔ x ∈ (w.list f).ints
  times : ∀ f, v.time f = w.time f
  exts : ∀ o, v.ext? o = w.ext? o

theorem any_congr_mem {α : Type} (p : α → Bool) {l l' : List α} (h : ∀ x, x ∈ l ↔ x ∈ l') : l.any p = l'.any p := by
  rw [Bool.eq_iff_iff]
  simp only [List.any_eq_true, h]

theorem evalI_similar {v w : View} (h : Similar v w) : ∀ e : IExp, e.eval v = e.eval w := by
  intro e
  induction e <;> simp only [IExp.eval, h.ints, *]

theorem evalC_similar (env : Env) {v w : View} (h : Similar v w) : ∀ c : Cond, evalC env v c = evalC env w c := by
  intro c
  induction c with
  | anyS f p => simp only [evalC, any_congr_mem _ (h.lstrs f)]
  | anyO f os => simp only [evalC, any_congr_mem _ (h.loids f)]
  | anyI f is => simp only [evalC, any_congr_mem _ (h.lints f)]
  | _ => simp only [evalC, h.bools, h.ints, h.strs, h.times, h.nils, h.lens, h.exts, evalI_similar h, *]

theorem evalS_similar (env : Env) {v w : View} (h : Similar v w) : ∀ s : Stmt, evalS env v s = evalS env w s := by
  intro s
  induction s <;> simp only [evalS, evalC_similar env h, h.ints, *]

/-- **Order independence of every translated rule** (C17): permuting the elements of any list field
    (SAN entries, policy identifiers, EKUs, subject attribute types, …) — or replacing a list by any list with
    the same elements — changes no rule's answer. The extension map has no order to begin with. -/
theorem run_similar (env : Env) (r : Rule) {v w : View} (h : Similar v w) : r.run env v = r.run env w := by
  unfold Rule.run
  rw [evalC_similar env h, evalS_similar env h]

theorem similar_of_perm (v : View) (f0 : Nat) (lv : ListVal) (strs' : List Bytes) (oids' : List Oid) (ints' : List Int)
    (hv : v.list f0 = lv) (hs : lv.strs.Perm strs') (ho : lv.oids.Perm oids') (hi : lv.ints.Perm ints') :
    Similar v { v with lists := (f0, { lv with strs := strs', oids := oids', ints := ints' }) :: v.lists } := by
  have key : ∀ f, ({ v with lists := (f0, { lv with strs := strs', oids := oids', ints := ints' }) :: v.lists } : View).list f
      = if f0 = f then { lv with strs := strs', oids := oids', ints := ints' } else v.list f := by
    intro f
    simp [View.list, lookup]
  refine ⟨fun _ => rfl, fun _ => rfl, fun _ => rfl, ?_, ?_, ?_, ?_, ?_, fun _ => rfl, fun _ => rfl⟩
  all_goals
    intro f
    rw [key]
    split
    · subst_vars; simp [hs.mem_iff, ho.mem_iff, hi.mem_iff]
    · simp

/-- non-vacuity of `run_similar`: two distinct orders of a two-element SAN list -/
example : Similar { lists := [(3, { isNil := false, len := 2, strs := [[97], [98]] })] }
                  { lists := [(3, { isNil := false, len := 2, strs := [[98], [97]] })] } := by
  refine ⟨fun _ => rfl, fun _ => rfl, fun _ => rfl, ?_, ?_, ?_, ?_, ?_, fun _ => rfl, fun _ => rfl⟩
  all_goals
    intro f
    simp only [View.list, lookup]
    split <;> simp [or_comm]

/-! ### mirror images -/

/-- `w` shows under the names `f`, `o` what `v` shows under `ρ f`, `σ o` -/
structure Mirrors (ρ : Nat → Nat) (σ : Oid → Oid) (v w : View) : Prop where
  bools : ∀ f, w.bool f = v.bool (ρ f)
  ints : ∀ f, w.int f = v.int (ρ f)
  strs : ∀ f, w.str f = v.str (ρ f)
  lists : ∀ f, w.list f = v.list (ρ f)
  times : ∀ f, w.time f = v.time (ρ f)
  exts : ∀ o, w.ext? o = v.ext? (σ o)

theorem evalI_rename {ρ σ} {v w : View} (h : Mirrors ρ σ v w) : ∀ e : IExp, (e.rename ρ).eval v = e.eval w := by
  intro e
  induction e <;> simp only [IExp.rename, IExp.eval, h.ints, *]

theorem evalC_rename (env : Env) {ρ σ} {v w : View} (h : Mirrors ρ σ v w) : ∀ c : Cond, evalC env v (c.rename ρ σ) = evalC env w c := by
  intro c
  induction c <;> simp only [Cond.rename, evalC, h.bools, h.ints, h.strs, h.times, h.lists, h.exts, evalI_rename h, *]

theorem evalS_rename (env : Env) {ρ σ} {v w : View} (h : Mirrors ρ σ v w) : ∀ s : Stmt, evalS env v (s.rename ρ σ) = evalS env w s := by
  intro s
  induction s <;> simp only [Stmt.rename, evalS, evalC_rename env h, h.ints, *]

/-- **A rule whose terms are the renamed terms of its twin answers, on any certificate, what the twin answers on
    the mirror-image certificate** (C20 for duplicated rules inside the fragment). -/
theorem twin_agrees (env : Env) (a b : Rule) (ρ : Nat → Nat) (σ : Oid → Oid)
    (ha : b.applies = a.applies.rename ρ σ) (hb : b.body = a.body.rename ρ σ) {v w : View} (h : Mirrors ρ σ v w) :
    b.run env v = a.run env w := by
  unfold Rule.run
  rw [ha, hb, evalC_rename env h, evalS_rename env h]

/-- in particular, on a certificate that is its own mirror image (the two fields carry the same content) both
    twins reach the same conclusion -/
theorem twin_agrees_same (env : Env) (a b : Rule) (ρ : Nat → Nat) (σ : Oid → Oid)
    (ha : b.applies = a.applies.rename ρ σ) (hb : b.body = a.body.rename ρ σ) {v : View} (h : Mirrors ρ σ v v) :
    b.run env v = a.run env v := twin_agrees env a b ρ σ ha hb h

/-! ### the regenerated table -/
open Generated

/-- 0 = `e_`, 1 = `w_`, 2 = `n_` -/
def prefixOfName : Bytes → Nat
  | 101 :: 95 :: _ => 0
  | 119 :: 95 :: _ => 1
  | 110 :: 95 :: _ => 2
  | _ => 3

/-- **Every translated rule passes the guard analysis** — hence (`safe_never_panics`) none of them can
    panic on any certificate: every `GetExtFromCert(...).Critical` is dominated by the presence test. -/
theorem all_rules_safe : bodyRules.all Rule.safe = true := by decide +kernel

/-- for every translated rule and every view: no panic (C02, for the bodies inside the fragment) -/
theorem translated_rules_never_panic (env : Env) (r : Rule) (hr : r ∈ bodyRules) (v : View) : r.run env v ≠ .panic :=
  safe_never_panics env r (List.all_eq_true.mp all_rules_safe r hr) v

/-- **Every status written in a translated body respects the prefix rule**, except exactly the committed
    known findings. With `run_cases` this is C06 for these lints on every certificate. -/
theorem all_rules_severity :
    bodyRules.all (fun r => r.body.statuses.all (fun s => allowedStatus (prefixOfName r.nameB) s || r.knownBad.contains s)) = true := by
  decide +kernel

theorem translated_rules_severity (env : Env) (r : Rule) (hr : r ∈ bodyRules) (v : View) (s : Status)
    (h : r.run env v = .result s) : allowedStatus (prefixOfName r.nameB) s = true ∨ s ∈ r.knownBad := by
  obtain ⟨s', hs', h'⟩ : ∃ s' ∈ r.body.statuses, r.run env v = .result s' := by
    simpa [h] using run_cases env r v
  cases h.symm.trans h'
  simpa using List.all_eq_true.mp (List.all_eq_true.mp all_rules_severity r hr) s hs'

/-- the excused statuses are really written in those bodies (nothing stale is excused) -/
theorem known_bad_not_stale :
    bodyRules.all (fun r => r.knownBad.all (fun s => r.body.statuses.contains s && !allowedStatus (prefixOfName r.nameB) s)) = true := by
  decide +kernel

/-- **No translated rule reads a field that depends on the signature value** (C09): the view has no
    signature, fingerprint or raw-bytes field, and the only fields these rules read are in the list below. -/
theorem all_rules_fields_allowed :
    bodyRules.all (fun r => r.fields.all (fun f => decide (f < bodyFieldNames.length))) = true := by decide +kernel

/-- fields of the parsed certificate that depend on the signature value or on the whole encoding -/
def sigFields : List String :=
  ["Signature", "Raw", "FingerprintMD5", "FingerprintSHA1", "FingerprintSHA256", "FingerprintNoCT", "validSignature", "SelfSignedVerified"]

theorem no_signature_field :
    bodyFieldNames.all (fun p => !(sigFields.contains p.1)) = true := by decide +kernel

/-! duplicated rules inside the fragment: the twin's terms are the renamed terms (decided on the regenerated table) -/

def fieldId (n : String) : Nat := bodyFieldNames.findIdx (fun p => p.1 == n)
def swapField (a b : String) (f : Nat) : Nat := if f == fieldId a then fieldId b else f
def swapOid (a b : Oid) (o : Oid) : Oid := if o == a then b else o
def ruleNamed (n : String) : Option Rule := bodyRules.find? (fun r => r.name == n)
def oidSAN : Oid := [2, 5, 29, 17]
def oidIAN : Oid := [2, 5, 29, 18]

/-- `b` is `a` renamed — or one of them is no longer inside the fragment (then the pair is judged by C20's search) -/
def isTwin (a b : String) (ρ : Nat → Nat) (σ : Oid → Oid) : Bool :=
  match ruleNamed a, ruleNamed b with
  | some ra, some rb => decide (rb.applies = ra.applies.rename ρ σ) && decide (rb.body = ra.body.rename ρ σ)
  | _, _ => true

/-- the Mozilla and the BR prohibition of DSA keys are the same rule, term for term -/
theorem dsa_twins : isTwin "e_prohibit_dsa_usage" "e_br_prohibit_dsa_usage" id id = true := by decide +kernel

/-- three subjectAltName rules and their issuerAltName copies -/
theorem san_ian_twins :
    isTwin "e_ext_san_space_dns_name" "e_ext_ian_space_dns_name" (swapField "DNSNames" "IANDNSNames") (swapOid oidSAN oidIAN) = true
    ∧ isTwin "e_san_bare_wildcard" "e_ian_bare_wildcard" (swapField "DNSNames" "IANDNSNames") (swapOid oidSAN oidIAN) = true
    ∧ isTwin "e_san_dns_name_starts_with_period" "e_ian_dns_name_starts_with_period" (swapField "DNSNames" "IANDNSNames") (swapOid oidSAN oidIAN) = true := by
  decide +kernel

/-- three subjectAltName URI rules (URL parsing is a parameter of the model: the same `Env` on both sides) and their
    issuerAltName copies -/
theorem san_ian_uri_twins :
    isTwin "e_ext_san_uri_relative" "e_ext_ian_uri_relative" (swapField "URIs" "IANURIs") (swapOid oidSAN oidIAN) = true
    ∧ isTwin "e_ext_san_uri_format_invalid" "e_ext_ian_uri_format_invalid" (swapField "URIs" "IANURIs") (swapOid oidSAN oidIAN) = true
    ∧ isTwin "e_ext_san_uri_host_not_fqdn_or_ip" "e_ext_ian_uri_host_not_fqdn_or_ip" (swapField "URIs" "IANURIs") (swapOid oidSAN oidIAN) = true := by
  decide +kernel

/-- three more pairs whose bodies scan the octets of each name (non-IA5 URI, NUL in a dNSName, `*` after the first octet) -/
theorem san_ian_octet_twins :
    isTwin "e_ext_san_uri_not_ia5" "e_ext_ian_uri_not_ia5" (swapField "URIs" "IANURIs") (swapOid oidSAN oidIAN) = true
    ∧ isTwin "e_san_dns_name_includes_null_char" "e_ian_dns_name_includes_null_char" (swapField "DNSNames" "IANDNSNames") (swapOid oidSAN oidIAN) = true
    ∧ isTwin "e_san_wildcard_not_first" "e_ian_wildcard_not_first" (swapField "DNSNames" "IANDNSNames") (swapOid oidSAN oidIAN) = true := by
  decide +kernel

example : (ruleNamed "e_ext_ian_uri_not_ia5").isSome ∧ (ruleNamed "e_ian_dns_name_includes_null_char").isSome ∧ (ruleNamed "e_ian_wildcard_not_first").isSome := by
  decide +kernel

/-- the pairs are really in the table today (the statements above are not vacuous) -/
example : (ruleNamed "e_prohibit_dsa_usage").isSome ∧ (ruleNamed "e_ext_ian_space_dns_name").isSome
    ∧ (ruleNamed "e_ian_bare_wildcard").isSome ∧ (ruleNamed "e_ian_dns_name_starts_with_period").isSome
    ∧ (ruleNamed "e_ext_ian_uri_relative").isSome ∧ (ruleNamed "e_ext_ian_uri_format_invalid").isSome ∧ (ruleNamed "e_ext_ian_uri_host_not_fqdn_or_ip").isSome := by decide +kernel

/-- non-vacuity: the table is populated, with rules of all three prefixes and rules that use `crit` guards -/
example : bodyRules.length ≥ 100 ∧ bodyRules.any (fun r => prefixOfName r.nameB == 1) ∧ bodyRules.any (fun r => prefixOfName r.nameB == 2)
    ∧ bodyRules.any (fun r => !r.applies.posFacts.isEmpty) := by decide +kernel

end Zl.Bodies
