/-
  C10 — Concurrent linting is safe and equals sequential linting.

  (1) For threads whose steps leave the shared world unchanged, every interleaving gives each thread
  exactly the states (hence outputs) of running its own program alone. (2) That the code's steps are
  of this kind is the regenerated footprint: no store to package-level state, no store through the
  receiver in the registry's read operations, no store through a linted object, read-lock discipline.

  Partial: data races are a property of the Go memory model and of third-party code (regexp,
  publicsuffix, idna, go-toml tree reads); the Lean model cannot exhibit them. The race detector run
  (search) observes the real scheduler; no race-freedom is claimed at proof level.
-/
import ZlModel.World
import ZlProofs.Props.C05
namespace Zl.C10
open Zl Generated

theorem stepThread_readOnly {G Obj Out : Type} (g : G) (t : Thread G Obj Out) (h : ∀ c ∈ t.prog, c.readOnly) :
    (stepThread g t).1 = g ∧ ∀ c ∈ (stepThread g t).2.prog, c.readOnly := by
  unfold stepThread
  split
  next => exact ⟨rfl, h⟩
  next c rest hp =>
    rw [hp] at h
    exact ⟨congrArg Prod.fst (h c List.mem_cons_self g t.obj), fun c' hc' => h c' (List.mem_cons_of_mem _ hc')⟩

theorem updateAt_eq_set {α : Type} (l : List α) (i : Nat) (a : α) : updateAt l i a = l.set i a := by
  fun_induction updateAt l i a <;> simp [*]

/-- **Every interleaving equals the sequential runs.** If every call of every thread is read-only on
    the shared world, then after any schedule the world is unchanged and each thread is in exactly the
    state — local object, remaining program, outputs so far — it reaches by running alone for some number of steps. -/
theorem interleaving_eq_sequential {G Obj Out : Type} (g : G) (ts0 : List (Thread G Obj Out))
    (hro : ∀ t ∈ ts0, ∀ c ∈ t.prog, c.readOnly) (sched : List Nat) :
    (runSchedule sched g ts0).1 = g ∧
    ∀ (i : Nat) (t0 : Thread G Obj Out), ts0[i]? = some t0 → ∃ n, (runSchedule sched g ts0).2[i]? = some (runAlone n g t0).2 := by
  induction sched generalizing ts0 with
  | nil => exact ⟨rfl, fun i t0 h => ⟨0, h⟩⟩
  | cons j rest ih =>
    rw [runSchedule]
    cases hj : ts0[j]? with
    | none => exact ih ts0 hro
    | some t =>
      -- thread `j` steps in the unchanged world; the rest of the schedule runs on a list that is read-only again
      obtain ⟨hw, hro'⟩ := stepThread_readOnly g t (hro t (List.mem_of_getElem? hj))
      obtain ⟨h1, h2⟩ := ih (ts0.set j (stepThread g t).2) fun t' ht' =>
        (List.mem_or_eq_of_mem_set ht').elim (hro t') (· ▸ hro')
      simp only [updateAt_eq_set, hw]
      refine ⟨h1, fun i t0 hi => ?_⟩
      by_cases hij : j = i
      · subst hij
        obtain rfl : t = t0 := Option.some.inj (hj.symm.trans hi)
        obtain ⟨n, hn⟩ := h2 j (stepThread g t).2 (List.getElem?_set_self (List.getElem?_eq_some_iff.mp hj).1)
        -- one step more than the stepped thread needs: `runAlone` takes its first step first
        exact ⟨n + 1, by simpa only [runAlone, hw] using hn⟩
      · exact h2 i t0 (by rwa [List.getElem?_set_ne hij])

/-! ### regenerated footprints -/

/-- functions of packages lint / zlint that may store through a parameter: registration (init time),
    SetConfiguration (excluded from the property's operations), decoders writing into the value they are
    called on, and the result-set builders writing their own fresh result set -/
def allowedParamWriters : List String :=
  [ "(*github.com/zmap/zlint/v3.ResultSet).executeCertificate", "(*github.com/zmap/zlint/v3.ResultSet).executeOcspResponse",
    "(*github.com/zmap/zlint/v3.ResultSet).executeRevocationList", "(*github.com/zmap/zlint/v3.ResultSet).updateErrorStatePresent",
    "(*github.com/zmap/zlint/v3/lint.FilterOptions).AddProfile",
    "(*github.com/zmap/zlint/v3/lint.LintSource).FromString", "(*github.com/zmap/zlint/v3/lint.LintSource).UnmarshalJSON",
    "(*github.com/zmap/zlint/v3/lint.LintStatus).UnmarshalJSON", "(*github.com/zmap/zlint/v3/lint.SourceList).FromString",
    "(*github.com/zmap/zlint/v3/lint.certificateLinterLookupImpl).register", "(*github.com/zmap/zlint/v3/lint.ocspResponseLinterLookupImpl).register",
    "(*github.com/zmap/zlint/v3/lint.revocationListLinterLookupImpl).register",
    "(*github.com/zmap/zlint/v3/lint.registryImpl).register", "(*github.com/zmap/zlint/v3/lint.registryImpl).registerCertificateLint",
    "(*github.com/zmap/zlint/v3/lint.registryImpl).registerOcspResponseLint", "(*github.com/zmap/zlint/v3/lint.registryImpl).registerRevocationListLint",
    "(*github.com/zmap/zlint/v3/lint.registryImpl).SetConfiguration",
    "(github.com/zmap/zlint/v3/lint.SourceList).Swap",
    "(github.com/zmap/zlint/v3/lint.Configuration).Configure", "(github.com/zmap/zlint/v3/lint.Configuration).MaybeConfigure",
    "(github.com/zmap/zlint/v3/lint.Configuration).deserializeConfigInto", "(github.com/zmap/zlint/v3/lint.Configuration).resolveHigherScopedReferences" ]

/-- **The registry's read operations store nothing through the receiver** (Names, Sources, ByName,
    BySource, Lints, Filter, WriteJSON, GetConfiguration, DefaultConfiguration, lintNamesToMap …): only the
    functions listed above write through a parameter at all. -/
theorem registry_readers_readonly : paramWrites.all (fun p => allowedParamWriters.contains p.1) = true := by decide +kernel

/-- lock discipline: only read locks, each acquisition paired with a release in the same function;
    no exclusive lock anywhere (so readers never block each other and no lock order exists) -/
theorem lock_discipline :
    lockSites.all (fun s => s.2 == "RLock" || s.2 == "RUnlock") = true
    ∧ lockSites.all (fun s => s.2 != "RLock" || lockSites.contains (s.1, "RUnlock")) = true := by decide +kernel

/-- shared state is not written while linting: no package-level stores outside the registration API,
    no goroutines started, no stores through linted objects (from C05's obligations) -/
theorem steps_preserve_shared :
    globalWrites.all (fun w => C05.registrationAPI.contains w.1) = true ∧ goroutineSpawns = [] ∧ objectWrites = [] :=
  ⟨C05.no_global_writes.1, C05.no_goroutines, C05.no_object_writes.2⟩

/-- non-vacuity: two threads with read-only steps, an interleaved schedule -/
example : ∃ n, (runSchedule [0, 1, 0] (5 : Nat)
    [({ obj := (1 : Nat), prog := [⟨fun g o => (g + o, g, o)⟩, ⟨fun g o => (g * o, g, o)⟩] } : Thread Nat Nat Nat),
     { obj := 2, prog := [⟨fun g o => (g + o, g, o)⟩] }]).2[0]? =
    some (runAlone n 5 ({ obj := (1 : Nat), prog := [⟨fun g o => (g + o, g, o)⟩, ⟨fun g o => (g * o, g, o)⟩] } : Thread Nat Nat Nat)).2 :=
  (interleaving_eq_sequential 5 _ (by
    simp only [List.mem_cons, List.not_mem_nil, or_false, forall_eq_or_imp, forall_eq, Eff.readOnly, implies_true, and_self])
    [0, 1, 0]).2 0 _ rfl

end Zl.C10
